/-! List facts that core does not have. -/
namespace CocaVerif

theorem eq_of_mem_ite {α : Type} {c : Prop} [Decidable c] {a x : α} (h : x ∈ if c then [a] else []) : x = a := by
  split at h
  · exact List.mem_singleton.mp h
  · cases h

theorem filter_uniform_tag {α β : Type} [DecidableEq β] (tag : α → β) {l : List α} {k0 : β} (h : ∀ x ∈ l, tag x = k0) (k : β) :
    l.filter (fun x => tag x == k) = if k0 = k then l else [] := by
  split
  · rename_i e
    exact List.filter_eq_self.mpr fun x hx => by rw [h x hx, e]; exact beq_self_eq_true k
  · rename_i e
    exact List.filter_eq_nil_iff.mpr fun x hx => by rw [h x hx]; simpa using e

theorem map_map_cancel {α β : Type} {f : α → β} {g : β → α} (h : ∀ x, g (f x) = x) (l : List α) : (l.map f).map g = l :=
  List.map_map.trans (List.map_id'' h l)

theorem flatMap_ite_singleton {α β : Type} (p : α → Bool) (g : α → β) (l : List α) :
    (l.flatMap fun c => if p c then [g c] else []) = (l.filter p).map g := by
  induction l with
  | nil => rfl
  | cons x xs ih =>
    rw [List.flatMap_cons, ih, List.filter_cons]
    cases p x <;> rfl

theorem flatMap_ite_ite {α β : Type} (p q : α → Bool) (g : α → β) (l : List α) :
    (l.flatMap fun c => if p c then (if q c then [g c] else []) else []) = (l.filter fun c => p c && q c).map g := by
  rw [← flatMap_ite_singleton]
  congr 1; funext c
  cases p c <;> cases q c <;> rfl

theorem flatMap_const_nil {α β : Type} (l : List α) : (l.flatMap fun _ => ([] : List β)) = [] :=
  List.flatMap_eq_nil_iff.mpr fun _ _ => rfl

theorem filterMap_eq_map_of_mem {α β : Type} {f : α → Option β} {g : α → β} {l : List α} (h : ∀ x ∈ l, f x = some (g x)) :
    l.filterMap f = l.map g := by
  induction l with
  | nil => rfl
  | cons x xs ih =>
    rw [List.filterMap_cons, h x (by simp), ih fun y hy => h y (by simp [hy]), List.map_cons]

theorem exists_mem_map {α β : Type} {f : α → β} {l : List α} {P : β → Prop} : (∃ y ∈ l.map f, P y) ↔ ∃ x ∈ l, P (f x) := by
  constructor
  · rintro ⟨_, hy, hp⟩
    obtain ⟨x, hx, rfl⟩ := List.mem_map.1 hy
    exact ⟨x, hx, hp⟩
  · rintro ⟨x, hx, hp⟩
    exact ⟨f x, List.mem_map_of_mem hx, hp⟩

theorem fresh_of_nodup {α κ : Type} (key : α → κ) {done rest : List α} {x : α} (h : ((done ++ x :: rest).map key).Nodup) :
    ¬ key x ∈ done.map key := fun hmem =>
  (List.nodup_append.mp (List.map_append ▸ h)).2.2 _ hmem _ List.mem_cons_self rfl

theorem find?_beq_of_mem {α : Type} [BEq α] [LawfulBEq α] {l : List α} {k : α} (h : k ∈ l) : l.find? (· == k) = some k := by
  cases hf : l.find? (· == k) with
  | none => exact absurd (beq_self_eq_true k) (List.find?_eq_none.mp hf k h)
  | some y => have hy := List.find?_some hf; rw [eq_of_beq hy]

theorem sum_count_nodup {κ : Type} [BEq κ] [LawfulBEq κ] {D : List κ} (hD : D.Nodup) (ws : List κ) (h : ∀ w ∈ ws, w ∈ D) :
    (D.map fun q => ws.count q).sum = ws.length := by
  induction ws with
  | nil => simp [List.map_const']
  | cons w ws ih =>
    have step : ∀ D : List κ, (D.map fun q => (w :: ws).count q).sum = (D.map fun q => ws.count q).sum + D.count w := by
      intro D
      induction D with
      | nil => rfl
      | cons d D ihd =>
        rw [List.map_cons, List.sum_cons, ihd, List.map_cons, List.sum_cons, List.count_cons, List.count_cons, Bool.beq_comm,
          Nat.add_add_add_comm, Nat.add_comm (D.count w)]
    rw [step, ih fun x hx => h x (List.mem_cons_of_mem _ hx), hD.count, if_pos (h w List.mem_cons_self), List.length_cons]

end CocaVerif
