/-
  C13 — Architecture graph edges are exactly the type dependencies in the model.
  For EVERY code model, identifier set, merge function and filter.  Relations are keyed by the pair
  (from, to) in the model (the Go code keys them by `from + "->" + to`, which determines the pair for
  names without "->": stated assumption, exercised by the correspondence incl. colliding short names).
  DOT well-formedness is the gographviz printer's contract, checked on every run by re-parsing.
-/
import CocaVerif.Model.Arch

namespace CocaVerif.Props.C13
open CocaVerif CocaVerif.Arch

theorem keys_insertAll {κ : Type} [BEq κ] (ks : List κ) : GoMap.keys (insertAll ks) = GoMap.dedup ks :=
  (GoMap.keys_foldl_set id (fun _ _ => ()) ks []).trans (congrArg GoMap.dedup (List.map_id ks))

theorem mem_keys_insertAll {κ : Type} [BEq κ] [LawfulBEq κ] (ks : List κ) (q : κ) :
    q ∈ GoMap.keys (insertAll ks) ↔ q ∈ ks := by
  rw [keys_insertAll, GoMap.mem_dedup]

/-- one node per project type, the entry class `Main` excluded -/
theorem nodes_exact (deps : List DS) (ik : List String) (n : String) :
    n ∈ GoMap.keys (analysis deps ik).nodes ↔ ∃ c ∈ deps, c.node ≠ "Main" ∧ n = c.pkg ++ "." ++ c.node := by
  simp only [analysis, mem_keys_insertAll, List.mem_map, List.mem_filter, included, bne_iff_ne, and_assoc,
    eq_comm (a := n)]

theorem nodes_once (deps : List DS) (ik : List String) : (GoMap.keys (analysis deps ik).nodes).Nodup :=
  GoMap.keys_nodup _

/-- an edge A -> B exists exactly when A is a project type (not Main) and A implements B, has a field of type B (`DS.calls` is
    `CodeDataStruct.FunctionCalls`, where the full pass records the field types and `addCallInField` reads them), extends B, or a
    method of A other than `main` calls a method of a project type B different from A.  Only the last form asks that B be a project
    type; edges to other names are dropped by `display` -/
theorem edge_iff (deps : List DS) (ik : List String) (a b : String) :
    (a, b) ∈ GoMap.keys (analysis deps ik).rels ↔
      ∃ c ∈ deps, c.node ≠ "Main" ∧ a = c.pkg ++ "." ++ c.node ∧
        (b ∈ c.impls ∨ (∃ f ∈ c.calls, b = f.pkg ++ "." ++ f.node) ∨ (c.ext ≠ "" ∧ b = c.ext) ∨
         (∃ m ∈ c.fns, m.name ≠ "main" ∧ ∃ call ∈ m.calls, b = call.pkg ++ "." ++ call.node ∧ a ≠ b ∧ b ∈ ik)) := by
  simp only [analysis, mem_keys_insertAll, relPairs, included, List.mem_flatMap, List.mem_filter, List.mem_append, List.mem_map,
    List.mem_ite_nil_right, List.mem_singleton, Prod.mk.injEq, Bool.and_eq_true, bne_iff_ne, ne_eq, List.contains_iff_mem]
  constructor
  · rintro ⟨c, ⟨hc, hm⟩, ((⟨i, hi, rfl, rfl⟩ | ⟨f, hf, rfl, rfl⟩) | ⟨he, rfl, rfl⟩) |
      ⟨m, ⟨hm1, hm2⟩, call, ⟨hcall, hne, hik⟩, rfl, rfl⟩⟩
    · exact ⟨c, hc, hm, rfl, .inl hi⟩
    · exact ⟨c, hc, hm, rfl, .inr (.inl ⟨f, hf, rfl⟩)⟩
    · exact ⟨c, hc, hm, rfl, .inr (.inr (.inl ⟨he, rfl⟩))⟩
    · exact ⟨c, hc, hm, rfl, .inr (.inr (.inr ⟨m, hm1, hm2, call, hcall, rfl, hne, hik⟩))⟩
  · rintro ⟨c, hc, hm, rfl, hi | ⟨f, hf, rfl⟩ | ⟨he, rfl⟩ | ⟨m, hm1, hm2, call, hcall, rfl, hne, hik⟩⟩
    · exact ⟨c, ⟨hc, hm⟩, .inl (.inl (.inl ⟨b, hi, rfl, rfl⟩))⟩
    · exact ⟨c, ⟨hc, hm⟩, .inl (.inl (.inr ⟨f, hf, rfl, rfl⟩))⟩
    · exact ⟨c, ⟨hc, hm⟩, .inl (.inr ⟨he, rfl, rfl⟩)⟩
    · exact ⟨c, ⟨hc, hm⟩, .inr ⟨m, ⟨hm1, hm2⟩, call, ⟨hcall, hne, hik⟩, rfl, rfl⟩⟩

/-- merging yields exactly the quotient of the graph by the merge function, without self-loops -/
theorem merge_is_quotient (merge : String → String) (g : Graph) (x y : String) :
    (x, y) ∈ GoMap.keys (mergeGraph merge g).rels ↔
      ∃ p ∈ GoMap.keys g.rels, merge p.1 = x ∧ merge p.2 = y ∧ x ≠ y := by
  simp only [mergeGraph, mem_keys_insertAll, List.mem_filterMap, Option.ite_none_right_eq_some, Option.some.injEq, Prod.mk.injEq,
    bne_iff_ne, ne_eq]
  constructor
  · rintro ⟨p, hp, hne, rfl, rfl⟩; exact ⟨p, hp, rfl, rfl, hne⟩
  · rintro ⟨p, hp, rfl, rfl, hne⟩; exact ⟨p, hp, hne, rfl, rfl⟩

theorem merge_nodes (merge : String → String) (g : Graph) (x : String) :
    x ∈ GoMap.keys (mergeGraph merge g).nodes ↔ ∃ n ∈ GoMap.keys g.nodes, merge n = x := by
  simp only [mergeGraph, mem_keys_insertAll, List.mem_map]

/-- the layout shows each selected type once -/
theorem display_nodes_once (filters : List String) (g : Graph) : (display filters g).1.Nodup := by
  unfold display leaves selectKeys
  exact ((GoMap.keys_nodup g.nodes).sublist List.filter_sublist).sublist List.filter_sublist

/-- the layout draws an edge exactly for the relations between two displayed nodes -/
theorem display_edges_iff (filters : List String) (g : Graph) (e : Pair) :
    e ∈ (display filters g).2 ↔ e ∈ GoMap.keys g.rels ∧ e.1 ∈ (display filters g).1 ∧ e.2 ∈ (display filters g).1 := by
  simp [display]

-- (test) the two merge functions: drop the type name / keep the top-level package
#guard mergeHeader "com.a.b.Foo" = "com.a.b" ∧ mergeHeader "Foo" = "Foo" ∧
    mergePackage "com.a.b.Foo" = "com" ∧ mergePackage "Foo" = "main"

-- non-vacuity: an implements edge and a call edge, merged by package
#guard GoMap.keys (mergeGraph mergeHeader (analysis
    [{ pkg := "p.a", node := "A", impls := ["p.b.I"], fns := [{ name := "run", calls := [{ pkg := "p.b", node := "B", fn := "x" }] }] },
     { pkg := "p.b", node := "B" }] ["p.a.A", "p.b.B"])).rels = [("p.a", "p.b")]

end CocaVerif.Props.C13
