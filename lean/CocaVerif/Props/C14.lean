/-
  C14 — Commit-log parsing preserves every commit and every file change.
  Layer A (proved here, `blocks_exact`): the state machine of `ParseLog` over CLASSIFIED lines turns
  every log made of blocks  header (revision ≠ "") · (numstat | mode)* · separator  into one entry per
  block that has changes, in log order, with that block's header fields and built from that block's
  own lines only: the state is clean again after every block, so no change can be attributed to a
  different commit.
  Layer B (not proved; re-established on every run by the correspondence check): `classify`, i.e. the
  five regular expressions and the `SplitN` field extraction, agrees with the real code on
  generated/adversarial lines, and the text git prints for the argv below has that block structure
  (real repositories, judged against `git diff-tree`).
-/
import CocaVerif.Proofs.Git

namespace CocaVerif.Props.C14
open CocaVerif CocaVerif.Git

structure Block where
  rev : String
  author : String
  date : String
  msg : String
  body : List LineClass

def Block.lines (b : Block) : List LineClass := [.header b.rev b.author b.date b.msg] ++ b.body ++ [.other]

def clean (cs : List Commit) : PState := { cur := {}, fmap := [], curChanges := [], commits := cs }

def Block.bodyState (σ : Oracle) (b : Block) : Except String PState :=
  runC σ { cur := { rev := b.rev, author := b.author, date := b.date, message := b.msg, changes := [] },
           fmap := [], curChanges := [], commits := [] } b.body

/-- the entry a block produces: its own header fields and the changes gathered from its own body -/
def Block.entry (σ : Oracle) (b : Block) : Option Commit :=
  match b.bodyState σ with
  | .ok s =>
    let chs := s.curChanges ++ (σ (GoMap.entries s.fmap)).map (·.2)
    if chs.isEmpty then none else some { rev := b.rev, author := b.author, date := b.date, message := b.msg, changes := chs }
  | .error _ => none

theorem block_exact (σ : Oracle) (b : Block) (cs : List Commit)
    (hrev : b.rev ≠ "") (hbody : ∀ l ∈ b.body, isBody l = true) :
    runC σ (clean cs) b.lines = .ok (clean (cs ++ (b.entry σ).toList)) := by
  obtain ⟨fm, cc, hrun⟩ := runC_body σ b.body [] [] hbody
  have hr : (b.rev != "") = true := bne_iff_ne.mpr hrev
  unfold Block.lines
  rw [runC_append, runC_append]
  -- `hrun` serves twice, at two `commits`: for the body's run inside the log (from `cs`) and for `Block.bodyState` (from `[]`)
  simp only [runC, stepC, clean, hrun, hr, ↓reduceIte, Block.entry, Block.bodyState]
  cases (cc ++ (σ (GoMap.entries fm)).map (·.2)).isEmpty <;> simp

theorem blocks_exact (σ : Oracle) : ∀ (bs : List Block) (cs : List Commit),
    (∀ b ∈ bs, b.rev ≠ "" ∧ ∀ l ∈ b.body, isBody l = true) →
    runC σ (clean cs) (bs.flatMap Block.lines) = .ok (clean (cs ++ bs.flatMap fun b => (b.entry σ).toList)) := by
  intro bs
  induction bs with
  | nil => intro cs _; rw [List.flatMap_nil, List.flatMap_nil, List.append_nil]; rfl
  | cons b rest ih =>
    intro cs h
    obtain ⟨⟨hrev, hbody⟩, hrest⟩ := List.forall_mem_cons.mp h
    rw [List.flatMap_cons, runC_append, block_exact σ b cs hrev hbody]
    show runC σ _ _ = _  -- reduces the `match` on `.ok` that `runC_append` left
    rw [ih _ hrest, List.flatMap_cons, List.append_assoc]

theorem entry_header (σ : Oracle) (b : Block) (c : Commit) (h : b.entry σ = some c) :
    c.rev = b.rev ∧ c.author = b.author ∧ c.date = b.date ∧ c.message = b.msg := by
  unfold Block.entry at h
  split at h
  · dsimp only at h
    split at h
    · cases h
    · cases h; exact ⟨rfl, rfl, rfl, rfl⟩
  · cases h

/-- merge commits / empty commits (header directly followed by the separator) produce no entry -/
theorem empty_block_no_entry (σ : Oracle) (hσ : OracleOK σ) (r a d m : String) :
    Block.entry σ (Block.mk r a d m []) = none := by
  have : σ (GoMap.entries ([] : List (String × Change))) = [] := (hσ _).eq_nil
  simp [Block.entry, Block.bodyState, runC, this]

-- non-vacuity
example : Block.entry (fun l => l) (Block.mk "abc1234" "Ann" "2020-01-02" "m"
      [.numstat 2 0 "f.txt", .numstat 0 3 "g.txt", .mode "create" "f.txt", .mode "delete" "g.txt"]) =
    some { rev := "abc1234", author := "Ann", date := "2020-01-02", message := "m",
           changes := [{ added := 2, deleted := 0, file := "f.txt", mode := "create" },
                       { added := 0, deleted := 3, file := "g.txt", mode := "delete" }] } := rfl

/-- the regular expressions the model is written against are the ones in the source -/
theorem regex_sources_pinned :
    Gen.Git.revSrc = "\\[([\\d|a-f]{5,12})\\]" ∧ Gen.Git.authorSrc = "(.*?)\\s\\d{4}-\\d{2}-\\d{2}" ∧
    Gen.Git.dateSrc = "\\d{4}-\\d{2}-\\d{2}" ∧ Gen.Git.changesSrc = "([\\d-]+)[\\t\\s]+([\\d-]+)[\\t\\s]+(.*)" ∧
    Gen.Git.changeModelSrc = "\\s(\\w{1,6})\\s(mode 100(\\d){3})?\\s?(.*)(\\s\\(\\d{2}%\\))?" :=
  ⟨rfl, rfl, rfl, rfl, rfl⟩

theorem git_argv_pinned :
    Gen.Git.gitArgv = ["log", "--pretty=format:[%h] %aN %ad %s", "--date=short", "--numstat", "--reverse", "--summary"] := rfl

/-- classification of the lines git prints (checked instances; the general claim is Layer B) -/
example : classify "[51c8859] Ann Lee 2020-01-02 first: add f" = .header "51c8859" "Ann Lee" "2020-01-02" "first: add f" := by
  -- `String.toList_ofList` reads the characters off the literal; evaluated, `"…".toList` decodes its UTF-8 bytes by
  -- well-founded recursion, at a cost quadratic in the length
  show classify (String.ofList _) = _
  rw [classify, String.toList_ofList]; decide +kernel
example : classify "2\t0\tf.txt" = .numstat 2 0 "f.txt" ∧ classify "-\t-\tx.bin" = .numstat 0 0 "x.bin" := by
  show classify (String.ofList _) = _ ∧ classify (String.ofList _) = _
  repeat rw [classify, String.toList_ofList]
  decide +kernel
example : classify " create mode 100644 d/g.txt" = .mode "create" "d/g.txt" ∧ classify "" = .other := by
  show classify (String.ofList _) = _ ∧ classify (String.ofList _) = _
  repeat rw [classify, String.toList_ofList]
  decide +kernel
example : classify "[8d78aac] Ann Lee 2020-01-03 second [abc12] by Ann Lee 2020-01-01" =
    .header "8d78aac" "Ann Lee" "2020-01-03" "second [abc12] by Ann Lee 2020-01-01" := by
  show classify (String.ofList _) = _
  rw [classify, String.toList_ofList]; decide +kernel

end CocaVerif.Props.C14
