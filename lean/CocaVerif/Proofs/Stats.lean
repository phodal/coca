import CocaVerif.Model.Stats
import CocaVerif.Base.Fold

namespace CocaVerif.Stats

/-- the counting loop `if p(c) { m[c]++ }` -/
theorem foldl_count (p : String → Bool) (k : String) (cs : List String) (m : List (String × Nat)) :
    GoMap.get? (cs.foldl (fun m c => if p c then GoMap.set m c ((GoMap.get? m c).getD 0 + 1) else m) m) k
      = if p k = true ∧ cs.count k ≠ 0 then some ((GoMap.get? m k).getD 0 + cs.count k) else GoMap.get? m k := by
  rw [List.foldl_observe (GoMap.get? · k) (hit := fun c => p k && c == k) (g := fun o _ => some (o.getD 0 + 1)),
    List.foldl_some_getD (fun n _ => n + 1) 0, List.foldl_add_const, Nat.one_mul]
  · cases p k
    · simp
    · simp only [Bool.true_and, ← List.count_eq_length_filter, ← List.length_eq_zero_iff, true_and, ite_not]
  · intro m c
    rw [apply_ite (GoMap.get? · k), GoMap.get?_set]
    by_cases hc : c = k
    · subst hc; simp
    · simp [hc]

theorem countWords_get (ws : List String) (q : String) :
    GoMap.get? (countWords ws) q = if ws.count q = 0 then none else some (ws.count q) := by
  have := foldl_count (fun _ => true) q ws []
  simpa [countWords] using this

end CocaVerif.Stats
