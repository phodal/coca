/-
  C10, front-end shape: which top-level statements the bad-smell listener counts as an `if` / a `switch`.

  The listener does not look for "an if statement"; on a statement node it tests (conditions regenerated from
  bad_smell_listener.go: `Gen.Bs.skipFewKids`, `secondIsPar`, `firstIsIf`, `firstIsSwitch`): at least 3 children, the second
  child a `*parser.ParExpressionContext`, the first child spelled `if` / `switch`.  The theorems hold for every children
  word of the rule `statement` of the regenerated grammar (`Gen.JavaGrammar`, from JavaParser.g4 / JavaLexer.g4), that is
  for every error-free parse; a change of that rule or of one of the listener's conditions breaks them.
  Not proved: that no statement whose first child is a rule, not a token (`rule_headed_statements`), passes the text test;
  it rests on `if` / `switch` being reserved words of the lexer (no rule subtree is spelled `if`).
-/
import CocaVerif.Base.NavTree
import CocaVerif.Gen.JavaGrammar
import CocaVerif.Gen.Bs

namespace CocaVerif.Props.C10Shape
open CocaVerif CocaVerif.Rx CocaVerif.NavTree CocaVerif.Gen

def capitalize (s : String) : String :=
  match s.toList with
  | c :: cs => String.ofList (c.toUpper :: cs)
  | [] => s

/-- what `reflect.TypeOf(child).String()` prints for a child with this grammar symbol -/
def goType (sym : String) : String :=
  if JavaGrammar.ruleNames.contains sym then "*parser." ++ capitalize sym ++ "Context" else "*antlr.TerminalNodeImpl"

/-- the listener's tests on a statement node: the symbols of its children, the text of its first child -/
def countsAsIf (w : List String) (firstText : String) : Bool :=
  !Bs.skipFewKids w.length && Bs.secondIsPar (goType (w[1]?.getD "")) && Bs.firstIsIf firstText

def countsAsSwitch (w : List String) (firstText : String) : Bool :=
  !Bs.skipFewKids w.length && Bs.secondIsPar (goType (w[1]?.getD "")) && Bs.firstIsSwitch firstText

def stmt : Rx := JavaGrammar.rhs "statement"

/-- after IF / SWITCH: a parExpression, and at least one more child.  `ts` is what follows the first symbol, so `symsAt 0` of it is
    child 1 of the statement and `symsAt 1` child 2; the second component says that some word ends before that position. -/
def parThenMore (ts : List Rx) : Bool :=
  (symsAt 0 (seqOf ts)).1 == ["parExpression"] && !(symsAt 0 (seqOf ts)).2 && !(symsAt 1 (seqOf ts)).2

deriving instance DecidableEq for Rx

/-- The three facts that walk the table of rule names, in one kernel evaluation (the kernel shares the string compares
    only within one declaration).  The walk through the generated `match` is the dear part of any evaluation that mentions
    `stmt`: hence the `rw [stmt_eq]` before every later `decide`. -/
theorem rule_table_facts : stmt = JavaGrammar.r_statement ∧ goType "parExpression" = "*parser.ParExpressionContext" ∧
    ((heads stmt).filter fun s => JavaGrammar.ruleNames.contains s).eraseDups = ["block", "expression", "switchExpression", "identifier"] := by
  decide +kernel

theorem stmt_eq : stmt = JavaGrammar.r_statement := rule_table_facts.1

theorem if_tails_shape : (tailsOf "IF" stmt).all parThenMore = true := by rw [stmt_eq]; decide +kernel
theorem switch_tails_shape : (tailsOf "SWITCH" stmt).all parThenMore = true := by rw [stmt_eq]; decide +kernel
/-- the two `.all` facts above are not vacuous -/
theorem if_exists : tailsOf "IF" stmt ≠ [] := by rw [stmt_eq]; decide +kernel
theorem switch_exists : tailsOf "SWITCH" stmt ≠ [] := by rw [stmt_eq]; decide +kernel

theorem par_type : goType "parExpression" = "*parser.ParExpressionContext" := rule_table_facts.2.1

theorem shape_of (tk : String) (hall : (tailsOf tk stmt).all parThenMore = true) (w t : List String) (hm : Matches stmt w)
    (hw : w = tk :: t) : 3 ≤ w.length ∧ w[1]? = some "parExpression" := by
  obtain ⟨ts, hts, hseq⟩ := tailsOf_sound tk hm t hw
  have hp := List.all_eq_true.mp hall ts hts
  simp only [parThenMore, Bool.and_eq_true, Bool.not_eq_true', beq_iff_eq] at hp
  have s0 := symsAt_sound 0 (seqOf_sound hseq)
  have s1 := symsAt_sound 1 (seqOf_sound hseq)
  subst hw
  match t, s0, s1 with
  | [], s0, _ => exact absurd (s0.2 rfl) (by simp [hp.1.2])
  | [_], _, s1 => exact absurd (s1.2 rfl) (by simp [hp.2])
  | a :: _ :: _, s0, _ =>
    have ha := s0.1 a rfl
    rw [hp.1.1, List.mem_singleton] at ha
    exact ⟨by simp, by simp [ha]⟩

theorem counts_of_shape {w : List String} (h : 3 ≤ w.length ∧ w[1]? = some "parExpression") (first : Bool) :
    (!Bs.skipFewKids w.length && Bs.secondIsPar (goType (w[1]?.getD "")) && first) = first := by
  have h3 : Bs.skipFewKids w.length = false := decide_eq_false (by omega)
  rw [h3, h.2, Option.getD_some, par_type]
  rfl

/-- every statement that begins with IF is counted as an if -/
theorem if_statement_counted (w t : List String) (hm : Matches stmt w) (hw : w = "IF" :: t) : countsAsIf w "if" = true := by
  rw [countsAsIf, counts_of_shape (shape_of "IF" if_tails_shape w t hm hw)]
  rfl

theorem switch_statement_counted (w t : List String) (hm : Matches stmt w) (hw : w = "SWITCH" :: t) : countsAsSwitch w "switch" = true := by
  rw [countsAsSwitch, counts_of_shape (shape_of "SWITCH" switch_tails_shape w t hm hw)]
  rfl

theorem token_named (h text : String) (ht : JavaGrammar.tokenText h = some text) : (h, text) ∈ JavaGrammar.tokenTable := by
  obtain ⟨p, hf, rfl⟩ := Option.map_eq_some_iff.mp ht
  have : p.1 = h := by simpa using List.find?_some hf
  exact this ▸ List.mem_of_find?_eq_some hf

theorem token_of_text (tok text : String) (huniq : JavaGrammar.tokenTable.all (fun p => p.2 != text || p.1 == tok) = true)
    (h : String) (ht : JavaGrammar.tokenText h = some text) : h = tok := by
  simpa using List.all_eq_true.mp huniq _ (token_named h text ht)

/-- what is counted as an if begins with IF, when its first child is a token -/
theorem counted_is_if (w : List String) (h text : String) (ht : JavaGrammar.tokenText h = some text)
    (hc : countsAsIf w text = true) : h = "IF" := by
  simp only [countsAsIf, Bool.and_eq_true, Bs.firstIsIf, beq_iff_eq] at hc
  -- over the lexer's literal-token table: IF is the only token spelled `if`
  exact token_of_text "IF" "if" (by decide +kernel) h (hc.2 ▸ ht)

theorem counted_is_switch (w : List String) (h text : String) (ht : JavaGrammar.tokenText h = some text)
    (hc : countsAsSwitch w text = true) : h = "SWITCH" := by
  simp only [countsAsSwitch, Bool.and_eq_true, Bs.firstIsSwitch, beq_iff_eq] at hc
  exact token_of_text "SWITCH" "switch" (by decide +kernel) h (hc.2 ▸ ht)

/-- the alternatives of `statement` whose first child is a rule (their text is not a token's) -/
theorem rule_headed_statements :
    ((heads stmt).filter fun s => JavaGrammar.ruleNames.contains s).eraseDups = ["block", "expression", "switchExpression", "identifier"] :=
  rule_table_facts.2.2

/-- a statement that begins with a `switchExpression` is the arrow form `switch (x) { case 1 -> …; }` -/
theorem arrow_switch_short (w t : List String) (hm : Matches stmt w) (hw : w = "switchExpression" :: t) : w.length ≤ 2 := by
  obtain ⟨ts, hts, hseq⟩ := tailsOf_sound "switchExpression" hm t hw
  have hall : (tailsOf "switchExpression" stmt).all (fun ts => (symsAt 1 (seqOf ts)).1 == []) = true := by
    rw [stmt_eq]; decide +kernel
  have hp : (symsAt 1 (seqOf ts)).1 = [] := by simpa using List.all_eq_true.mp hall ts hts
  subst hw
  match t, (symsAt_sound 1 (seqOf_sound hseq)).1 with
  | [], _ | [_], _ => simp
  | _ :: b :: _, s1 => exact absurd (s1 b rfl) (by simp [hp])

/-- the children-count test skips the arrow form, which is why the listener has a separate test for it (/repo commit f48d426) -/
theorem arrow_switch_skipped (w t : List String) (hm : Matches stmt w) (hw : w = "switchExpression" :: t) : Bs.skipFewKids w.length = true :=
  decide_eq_true (by have := arrow_switch_short w t hm hw; omega)

-- non-vacuity
example : Matches (.seq (.sym "IF") (.seq (.sym "parExpression") (.sym "statement"))) ["IF", "parExpression", "statement"] :=
  Matches.seq (Matches.sym _) (Matches.seq (Matches.sym _) (Matches.sym _))
example : countsAsIf ["IF", "parExpression", "statement"] "if" = true := by
  rw [countsAsIf, counts_of_shape ⟨by decide, rfl⟩]; rfl
example : countsAsIf ["WHILE", "parExpression", "statement"] "while" = false := by
  rw [countsAsIf, counts_of_shape ⟨by decide, rfl⟩]; rfl
example : countsAsSwitch ["switchExpression", "SEMI"] "switch(x){}" = false := by decide +kernel

end CocaVerif.Props.C10Shape
