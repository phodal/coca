/-
  C07 — A file's analysis result is independent of other files, order and repetition.

  Full pass.  `NewJavaFullListener` + `initClass` re-initialise every package variable the listener of a conventional file
  reads (regenerated: `listener_facts`, `full_unreset`).  So for EVERY event list — no well-formedness needed — the entries of
  a file are a function of (events of the file, identifier set, path) only (`runFile_independent`), and a run over any list
  of files is the concatenation of the per-file results (`runFiles_eq`).  Order, subsets / supersets with the identifier set
  fixed, and repetition in one process are corollaries (`perm`, `file_in_any_run`, `repetition_same`, `second_run_same`).
  Call graph / reverse call graph: `Analysis` / `NewRCallGraph` reset their traversal globals (`graph_facts`), so the graph
  text does not depend on the incoming process state and generating it twice gives the same graph (`call_graph_twice`,
  `rcall_graph_twice`).
  API scan: `C12.file_independent` (re-exported as `api_file_independent`).
  Identifier pass: Props/C01Ident.lean (`ident_file_independent`, `runFiles_eq`).
  Bad-smell pass: its listener is not modelled callback by callback but as an ARBITRARY deterministic transition function
  over the package-level variables of its one source file, whose constructor re-initialises every variable except those in
  the regenerated list `Gen.Bs.listenerUnreset` (`bs_file_independent`).  Trusted: the callbacks touch no other mutable
  state — the package has this one file.  The runs of C07 execute the real bad-smell app on every order / subset too.
-/
import CocaVerif.Proofs.JavaFull
import CocaVerif.Base.Fold
import CocaVerif.Model.Call
import CocaVerif.Props.C12
import CocaVerif.Gen.Ident
import CocaVerif.Gen.Bs

namespace CocaVerif.Props.C07
open CocaVerif CocaVerif.JavaFull

/-- the regenerated facts `newListener_eq` (Proofs/JavaFull), and with it all that follows here, rests on.
    `newListenerCallsInitClass` is not read by the model: `newListener` applies `initClass` outright.
    Nothing uses this lemma (`newListener_eq` unfolds the constants): a changed fact fails here with a readable goal. -/
theorem listener_facts :
    Gen.JavaFull.resetsMapFields = true ∧ Gen.JavaFull.resetsLocalVars = true ∧ Gen.JavaFull.resetsFormalParameters = true ∧
    Gen.JavaFull.resetsOuterBlocks = true ∧ Gen.JavaFull.resetsCurrentType = true ∧ Gen.JavaFull.resetsHasEnterClass = true ∧
    Gen.JavaFull.newListenerCallsInitClass = true := ⟨rfl, rfl, rfl, rfl, rfl, rfl, rfl⟩

/-- what neither `NewJavaFullListener` nor `initClass` assigns: `clzs` is assigned by `AppendClasses` right after construction, the
    other two are only touched inside anonymous classes (`new T() { … }`), which are not members of a conventional unit.
    The model does not read the list: a variable added to the listener and not reset shows here. -/
theorem full_unreset : Gen.JavaFull.unresetGlobals = ["clzs", "creatorMethodMap", "currentCreatorNode"] := rfl

theorem newListener_const (st st' : FSt) (ids clzs : List String) (file : String) :
    newListener st ids clzs file = newListener st' ids clzs file := by
  rw [newListener_eq, newListener_eq]

/-- the model clause of C07, full pass -/
theorem runFile_independent (st st' : FSt) (ids clzs : List String) (file : String) (evs : List Ev) :
    runFile st ids clzs file evs = runFile st' ids clzs file evs := by
  unfold runFile; rw [newListener_const st st']

/-- the entries of one file, by itself, in a fresh process -/
def fileResult (ids : List String) (f : String × List Ev) : List DS := (runFile {} ids ids f.1 f.2).classNodes

theorem runFiles_eq (ids : List String) (files : List (String × List Ev)) : ∀ (st : FSt),
    (runFiles st ids files).1 = files.flatMap (fileResult ids) := fun st =>
  (foldl_collect (fun (s : FSt) (f : String × List Ev) => runFile s ids ids f.1 f.2) (·.classNodes) {}
    (fun s f => runFile_independent s {} ids ids f.1 f.2) files ([], st)).trans (List.nil_append _)

theorem perm (ids : List String) (files files' : List (String × List Ev)) (st st' : FSt) (h : files.Perm files') :
    ((runFiles st ids files).1).Perm ((runFiles st' ids files').1) := by
  rw [runFiles_eq, runFiles_eq]; exact h.flatMap_right _

theorem file_in_any_run (ids : List String) (pre post : List (String × List Ev)) (f : String × List Ev) (st : FSt) :
    (runFiles st ids (pre ++ f :: post)).1
      = (runFiles st ids pre).1 ++ fileResult ids f ++ (runFiles st ids post).1 := by
  simp [runFiles_eq]

theorem repetition_same (ids : List String) (f : String × List Ev) (st : FSt) :
    (runFiles st ids [f, f]).1 = fileResult ids f ++ fileResult ids f := by
  simp [runFiles_eq]

theorem second_run_same (ids : List String) (files : List (String × List Ev)) (st : FSt) :
    (runFiles (runFiles st ids files).2 ids files).1 = (runFiles st ids files).1 := by
  rw [runFiles_eq, runFiles_eq]

/-- the model reads these (`getD` of the incoming value): with one of them `none` the incoming state shows and the `rfl`s below fail -/
theorem graph_facts : Gen.Call.analysisResets = some 0 ∧ Gen.Call.newRCallGraphResetsLoop = some 0 ∧
    Gen.Call.newRCallGraphResetsLast = some "" := ⟨rfl, rfl, rfl⟩

theorem rcall_graph_state_independent (clzs : List DS) (st st' : Call.St) (target : String) :
    (Call.rcallAnalysis clzs st target).1 = (Call.rcallAnalysis clzs st' target).1 := rfl

theorem call_graph_state_independent (clzs : List DS) (st st' : Call.St) (root : String) (lookup : Bool) :
    (Call.callAnalysis clzs st root lookup).1 = (Call.callAnalysis clzs st' root lookup).1 := by
  cases lookup <;> rfl

theorem call_graph_twice (clzs : List DS) (st : Call.St) (root : String) (lookup : Bool) :
    (Call.callAnalysis clzs (Call.callAnalysis clzs st root lookup).2 root lookup).1 = (Call.callAnalysis clzs st root lookup).1 :=
  call_graph_state_independent _ _ _ _ _

theorem rcall_graph_twice (clzs : List DS) (st : Call.St) (target : String) :
    (Call.rcallAnalysis clzs (Call.rcallAnalysis clzs st target).2 target).1 = (Call.rcallAnalysis clzs st target).1 :=
  rcall_graph_state_independent _ _ _ _

theorem api_file_independent (f : C12.CFile) (hok : ∀ m ∈ f.members, m.ok) (st1 st2 : Api.ASt) :
    (Api.runFile st1 f.events).toOption.map (·.apis) = (Api.runFile st2 f.events).toOption.map (·.apis) :=
  C12.file_independent f hok st1 st2

/-- `NewJavaIdentifierListener` assigns every package variable; `JavaIdent.newListener` reads the list, and
    `C01Ident.ident_file_independent` holds for `[]` -/
theorem ident_unreset : Gen.Ident.unresetGlobals = [] := rfl

/-- the constructor of a listener: every package variable gets its initial value, except the listed ones -/
def resetAllBut {V : Type} (unreset : List String) (init s : String → V) : String → V :=
  fun v => if unreset.contains v then s v else init v

/-- bad_smell_listener.go: every package variable is assigned by `NewBadSmellListener` (regenerated) -/
theorem bs_unreset : Gen.Bs.listenerUnreset = [] := rfl

/-- whatever the callbacks do with the variables (`step`), whatever is read off them at the end (`out`): the result
    for a file's events does not depend on the state `s` / `s'` the previous files left behind -/
theorem bs_file_independent {V Ev Out : Type} (init : String → V) (step : (String → V) → Ev → (String → V))
    (out : (String → V) → Out) (evs : List Ev) (s s' : String → V) :
    out (evs.foldl step (resetAllBut Gen.Bs.listenerUnreset init s)) =
      out (evs.foldl step (resetAllBut Gen.Bs.listenerUnreset init s')) := by
  have h : resetAllBut Gen.Bs.listenerUnreset init s = resetAllBut Gen.Bs.listenerUnreset init s' := by
    funext v
    simp [resetAllBut, bs_unreset]
  rw [h]

/-- it fails for a constructor that leaves a variable alone (as `NewBadSmellListener` did before /repo commit 9370c77) -/
example : ∃ (s s' : String → Nat),
    (([()] : List Unit).foldl (fun st _ => st) (resetAllBut ["fields"] (fun _ => 0) s)) "fields" ≠
    (([()] : List Unit).foldl (fun st _ => st) (resetAllBut ["fields"] (fun _ => 0) s')) "fields" :=
  ⟨fun _ => 1, fun _ => 2, by simp [resetAllBut]⟩

-- (test) two files that reuse the name `svc` with different types: it resolves to q.T in A and r.U in B, in either order and when
-- repeated

def fileA : String × List Ev := ("a/A.java",
  [.pkg "p", .imp "q.T", .enterClass "A" none [], .field (some "T") ["svc"] ⟨3, 4, 3, 12⟩,
   .enterMethod "m" "void" [] [] true 4 9 6, .enterBlock,
   .call "svc" none "run" "run()" [] 5 12 5, .exitBlock, .exitMethod, .exitBody])
def fileB : String × List Ev := ("b/B.java",
  [.pkg "p", .imp "r.U", .enterClass "B" none [],
   .enterMethod "m" "void" [] [("U", "svc")] false 3 9 5, .formalParam "svc" "U", .enterBlock,
   .call "svc" none "run" "run()" [] 4 12 4, .exitBlock, .exitMethod, .exitBody])

#guard ((runFiles {} ["p.A", "p.B"] [fileA, fileB]).1.map fun d => d.fns.map fun f => f.calls.map fun c => (c.pkg, c.node))
  == [[[("q", "T")]], [[("r", "U")]]]
#guard ((runFiles {} ["p.A", "p.B"] [fileB, fileA, fileB]).1.map fun d => d.fns.map fun f => f.calls.map fun c => (c.pkg, c.node))
  == [[[("r", "U")]], [[("q", "T")]], [[("r", "U")]]]

end CocaVerif.Props.C07
