/-
  C06 — Unused-import removal deletes nothing but unused single-type imports (rewrite layer).

  The decision logic of `BuildErrorLines` and the deletion loop of `removeImportByLines`, for one file.  Per file: the tables and
  the path travel with each identifier (`per_file_facts`: `NewJFullIdentifier` leaves no package-level variable of the models
  package unassigned, and the file rewritten is `node.File`), so every file of a directory is cleaned with its own tables; the
  multi-file clause is decided on the real code by the directory oracle.
-/
import CocaVerif.Model.Refactor

namespace CocaVerif.Props.C06
open CocaVerif CocaVerif.Refactor

theorem per_file_facts : Gen.Refactor.modelsGlobals = [] ∧ Gen.Refactor.unusedRewritesFile = "node.File" ∧
    Gen.Refactor.unusedSkipsUnnamed = true ∧ Gen.Refactor.wildcardTestedInLoop = false ∧ Gen.Refactor.nameTestedInLoop = true :=
  ⟨rfl, rfl, rfl, rfl, rfl⟩

/-- reported = unused single-type import -/
theorem errorLines_iff (imports : List (String × Nat)) (names : List String) (l : Nat) :
    l ∈ errorLines imports names ↔ ∃ imp ∈ imports, imp.2 = l ∧ lastSeg imp.1 ≠ "*" ∧ ¬ lastSeg imp.1 ∈ names := by
  simp only [errorLines, Gen.Refactor.wildcardTestedInLoop, Bool.false_eq_true, if_false, List.mem_filterMap,
    Option.ite_none_left_eq_some, Option.some.injEq, Bool.or_eq_true, beq_iff_eq, List.contains_iff_mem, not_or]
  exact ⟨fun ⟨imp, hm, hc, h⟩ => ⟨imp, hm, h, hc⟩, fun ⟨imp, hm, h, hc⟩ => ⟨imp, hm, hc, h⟩⟩

/-- a wildcard import alone on its line (`huniq`) is never reported, also when the file refers to nothing -/
theorem wildcard_kept (imports : List (String × Nat)) (names : List String) (imp : String × Nat)
    (h : lastSeg imp.1 = "*") (huniq : ∀ j ∈ imports, j.2 = imp.2 → j = imp) : ¬ imp.2 ∈ errorLines imports names := by
  rw [errorLines_iff]
  rintro ⟨j, hj, hl, hs, _⟩
  have := huniq j hj hl
  subst this
  exact hs h

/-- the lines of a file numbered from `n`, without those whose number is reported -/
def keepFrom {α : Type} : Nat → List α → List Nat → List α
  | _, [], _ => []
  | n, x :: xs, errs => if errs.contains n then keepFrom (n + 1) xs errs else x :: keepFrom (n + 1) xs errs

theorem keepFrom_nil {α : Type} : ∀ (n : Nat) (l : List α), keepFrom n l [] = l
  | _, [] => rfl
  | n, x :: xs => congrArg (x :: ·) (keepFrom_nil (n + 1) xs)

theorem keepFrom_cons_lt {α : Type} (l : Nat) (rest : List Nat) : ∀ (D : List α) (n : Nat), l < n →
    keepFrom n D (l :: rest) = keepFrom n D rest
  | [], _, _ => rfl
  | d :: D, n, hn => by
    rw [keepFrom, keepFrom, List.contains_cons, beq_false_of_ne (Nat.ne_of_gt hn), Bool.false_or,
      keepFrom_cons_lt l rest D (n + 1) (Nat.lt_succ_of_lt hn)]

def Asc (hi : Nat) : Nat → List Nat → Prop
  | _, [] => True
  | c, l :: rest => c ≤ l ∧ l < hi ∧ Asc hi (l + 1) rest

theorem asc_contains (hi : Nat) {b : Nat} : ∀ (errs : List Nat) (c : Nat), Asc hi c errs → b < c → errs.contains b = false
  | [], _, _, _ => rfl
  | l :: rest, c, h, hb => by
    have hl := Nat.lt_of_lt_of_le hb h.1
    rw [List.contains_cons, beq_false_of_ne (Nat.ne_of_lt hl), asc_contains hi rest _ h.2.2 (Nat.lt_succ_of_lt hl)]; rfl

/-- `S` is numbered from `b` and the first report `l` is its line `k` (from 0): the `k` lines before it stay, it goes -/
theorem keepFrom_asc {α : Type} (hi l : Nat) (rest : List Nat) (h : Asc hi (l + 1) rest) : ∀ (k b : Nat) (S : List α), b + k = l →
    keepFrom b S (l :: rest) = S.take k ++ keepFrom (l + 1) (S.drop (k + 1)) rest
  | k, _, [], _ => by rw [List.take_nil]; rfl
  | 0, b, x :: S, e => by
    obtain rfl : b = l := e
    rw [keepFrom, List.contains_cons, beq_self_eq_true, Bool.true_or, keepFrom_cons_lt b rest S _ (Nat.lt_succ_self b)]
    rfl
  | k + 1, b, x :: S, e => by
    have hb : b < l := e ▸ Nat.lt_add_of_pos_right (Nat.succ_pos k)
    rw [keepFrom, List.contains_cons, beq_false_of_ne (Nat.ne_of_lt hb), asc_contains hi rest _ h (Nat.lt_succ_of_lt hb),
      Bool.false_or, if_neg Bool.false_ne_true, keepFrom_asc hi l rest h k (b + 1) S ((Nat.succ_add_eq_add_succ b k).trans e)]
    rfl

theorem removeAt_append {α : Type} (P S : List α) (d : Nat) (h : d < S.length) :
    removeAt (P ++ S) (P.length + d) = some (P ++ S.take d ++ S.drop (d + 1)) := by
  rw [removeAt, if_pos (List.length_append ▸ Nat.add_lt_add_left h _), List.take_length_add_append,
    Nat.add_assoc, List.drop_length_add_append]

/-- the loop invariant: `P` are the lines already passed (final), `S` the lines from number `b` on; the `c - 1` deletions made
    so far all lie in front of `S`.  The function folded is the body of the loop in `removeLines`, copied: at `P = []`, `c = 1`
    the left side is `removeLines ls errs` by definition -/
theorem removeLoop_exact {α : Type} : ∀ (errs : List Nat) (P S : List α) (b c : Nat), b = c + P.length → Asc (b + S.length) b errs →
    (errs.foldlM (fun (acc : List α × Nat) l =>
        if l < acc.2 then none else (removeAt acc.1 (l - acc.2)).map fun r => (r, acc.2 + 1)) (P ++ S, c)).map (·.1)
      = some (P ++ keepFrom b S errs) := by
  intro errs
  induction errs with
  | nil => intro P S b c _ _; rw [keepFrom_nil]; rfl
  | cons l rest ih =>
    rintro P S b c rfl ⟨h1, h2, h3⟩
    -- the report is the line `k` of `S`
    obtain ⟨k, hk⟩ := Nat.exists_eq_add_of_le h1
    have hS : k < S.length := Nat.lt_of_add_lt_add_left (hk ▸ h2)
    rw [Nat.add_assoc] at hk
    subst hk
    rw [List.foldlM_cons, if_neg (Nat.not_lt.mpr (Nat.le_add_right c _)), Nat.add_sub_cancel_left, removeAt_append P S _ hS,
      keepFrom_asc _ _ rest h3 k _ S (Nat.add_assoc ..), ← List.append_assoc]
    refine ih (P ++ S.take k) (S.drop (k + 1)) _ (c + 1) ?_ ?_
    · rw [List.length_append, List.length_take, Nat.min_eq_left (Nat.le_of_lt hS), Nat.add_right_comm]
    · rwa [List.length_drop, show c + (P.length + k) + 1 + (S.length - (k + 1)) = c + P.length + S.length by omega]

/-- only the reported lines disappear, whatever the shifting, for reports strictly ascending and inside the file -/
theorem removeLines_exact {α : Type} (ls : List α) (errs : List Nat) (h : Asc (1 + ls.length) 1 errs) :
    removeLines ls errs = some (keepFrom 1 ls errs) := removeLoop_exact errs [] ls 1 1 rfl h

/-- `BuildErrorLines`' test for one import: the `ok` inside `errorLines`, in the branch that
    `Gen.Refactor.wildcardTestedInLoop = false` selects -/
def used (names : List String) (imp : String × Nat) : Bool := lastSeg imp.1 == "*" || names.contains (lastSeg imp.1)

/-- the kept imports are all used: a second run reports nothing -/
theorem second_run_noop (imports : List (String × Nat)) (names : List String) :
    errorLines (imports.filter (used names)) names = [] := by
  refine List.eq_nil_iff_forall_not_mem.mpr fun l hl => ?_
  obtain ⟨imp, hm, -, h1, h2⟩ := (errorLines_iff _ names l).mp hl
  have := (List.mem_filter.mp hm).2
  simp [used, h1, h2] at this

-- five lines, the imports on lines 2 and 4 unused, the wildcard on line 3 kept: lines 2 and 4 go, the rest stays
#guard removeLines ["package p;", "import a.B;", "import c.*;", "import d.E;", "class X {}"] (errorLines [("a.B", 2), ("c.*", 3), ("d.E", 4)] []) ==
  some ["package p;", "import c.*;", "class X {}"]
#guard keepFrom 1 ["package p;", "import a.B;", "import c.*;", "import d.E;", "class X {}"] [2, 4] == ["package p;", "import c.*;", "class X {}"]

end CocaVerif.Props.C06
