/-
  What the callbacks of the API listener model compute, one equation per callback and situation; the mapping annotation of a
  handler is evaluated where its shapes are defined (Props/C12, `mapping_inside`).
-/
import CocaVerif.Model.Api

namespace CocaVerif.Api

/-- The regenerated facts the equations below rest on: every per-class global is reset per file, a class-level annotation only
    contributes the base path, and `value=` is read for every mapping annotation.  Nothing uses this lemma (the proofs unfold the
    constants): a changed fact fails here with a readable goal. -/
theorem listener_facts : Gen.Api.resetsHasEnterClass = true ∧ Gen.Api.resetsHasEnterRest = true ∧
    Gen.Api.resetsBaseApiUrl = true ∧ Gen.Api.resetsRequestBodyClass = true ∧
    Gen.Api.classLevelReturns = true ∧ Gen.Api.nonRequestMappingReturns = false := ⟨rfl, rfl, rfl, rfl, rfl, rfl⟩

/-- `onEv` without the error channel it never uses -/
def step (st : ASt) : Ev → ASt
  | .pkg n => { st with curPkg := n }
  | .imp _ => st
  | .anno a => onAnno st a
  | .enterClass n impl => { st with hasEnterClass := true, curClz := n, curImplements := impl }
  | .exitClass => { st with hasEnterClass := false }
  | .method n ps => onMethod st n ps

theorem runFile_eq (st : ASt) (evs : List Ev) : runFile st evs = .ok (evs.foldl step (newListener st)) := by
  unfold runFile
  generalize newListener st = s
  induction evs generalizing s with
  | nil => rfl
  | cons e evs ih => rw [List.foldl_cons, List.foldl_cons, ← ih]; cases e <;> rfl

/-- `rfl` evaluates the regenerated `Gen.Api.resets…` -/
theorem newListener_eq (st : ASt) : newListener st = {} := rfl

theorem runFile_independent (st st' : ASt) (evs : List Ev) : runFile st evs = runFile st' evs := by
  rw [runFile_eq, runFile_eq, newListener_eq, newListener_eq]

theorem setVerb_eq (api : RestAPI) (n : String) :
    setVerb api n = { api with httpMethod := (verbOf n).getD api.httpMethod } := by
  unfold setVerb; cases verbOf n <;> rfl

theorem isMapping_not_ctrl {n : String} (h : isMapping n = true) : (n == "RestController" || n == "Controller") = false := by
  simp only [isMapping, Bool.or_eq_true, beq_iff_eq] at h
  rcases h with (((rfl | rfl) | rfl) | rfl) | rfl <;> simp only [String.reduceBEq, Bool.or_self]

theorem onAnno_outside (st : ASt) (a : AnnoEv) (h : st.hasEnterClass = false) :
    onAnno st a = baseOf (if a.name == "RestController" || a.name == "Controller" then { st with isController := true } else st) a := by
  unfold onAnno
  have : (if a.name == "RestController" || a.name == "Controller" then { st with isController := true } else st).hasEnterClass = false := by
    split <;> exact h
  simp only [this, Bool.not_false, Gen.Api.classLevelReturns, Bool.and_self, ↓reduceIte]

theorem onAnno_skip (st : ASt) (a : AnnoEv) (hc : st.hasEnterClass = true)
    (hk : (a.name == "RestController" || a.name == "Controller") = false) (h : st.isController = false ∨ isMapping a.name = false) :
    onAnno st a = st := by
  unfold onAnno
  simp only [hk, Bool.false_eq_true, ↓reduceIte, hc, Bool.not_true, Bool.false_and]
  rcases h with h | h <;> simp only [h, Bool.not_false, ↓reduceIte, ite_self]

theorem onMethod_idle (st : ASt) (n : String) (ps : List ParamEv) (h : st.hasEnterRest = false) : onMethod st n ps = st := by
  unfold onMethod; simp only [h, Bool.false_eq_true, ↓reduceIte]

/-- `onMethod`'s test for an empty parameter list is redundant -/
theorem onMethod_pending (st : ASt) (n : String) (ps : List ParamEv) (h : st.hasEnterRest = true) :
    onMethod st n ps =
      let rb := ps.foldl (fun rb p => if p.annos.contains "RequestBody" then p.type else rb) st.requestBodyClass
      let e : RestAPI := { st.current with pkg := st.curPkg, cls := st.curClz, methodName := n, requestBodyClass := rb }
      { st with current := e, hasEnterRest := false, requestBodyClass := "", apis := st.apis ++ [e] } := by
  unfold onMethod; cases ps <;> simp only [h, ↓reduceIte] <;> rfl

/-- a frame lemma: `baseOf` reads and writes `baseApiUrl` only -/
theorem baseOf_eq (st : ASt) (a : AnnoEv) :
    baseOf st a = { st with baseApiUrl := (baseOf { baseApiUrl := st.baseApiUrl } a).baseApiUrl } := by
  unfold baseOf
  split
  · cases a.args with
    | none => rfl
    | positional t => simp only; cases stripEnds t <;> rfl
    | pairs kvs =>
      -- the loop over the attributes commutes with putting its base path into `st`
      refine List.foldl_hom (fun t : ASt => { st with baseApiUrl := t.baseApiUrl }) (init := { baseApiUrl := st.baseApiUrl })
        fun s kv => ?_
      split
      · cases stripEnds kv.2 <;> rfl
      · rfl
  · rfl

end CocaVerif.Api
