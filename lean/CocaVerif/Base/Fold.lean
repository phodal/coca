/-! Loops run as a `foldl`: a loop seen through an observation of its state, closed forms of the folds this leaves, and a run
    over several files that collects what each file yields (`CocaVerif.foldl_collect`). -/
namespace List

/-- With an observation at one key `k` (`GoMap.get? · k`, `GoMap.getL · k`, a count) this is every "the entry for key `k`
    gathers the items with key `k`" statement about a map built in a loop. -/
theorem foldl_observe {σ α β : Type} (obs : σ → β) {step : σ → α → σ} {hit : α → Bool} {g : β → α → β}
    (h : ∀ s x, obs (step s x) = if hit x then g (obs s) x else obs s) (xs : List α) (s : σ) :
    obs (xs.foldl step s) = (xs.filter hit).foldl g (obs s) := by
  rw [foldl_filter]; exact (foldl_hom obs fun s x => (h s x).symm).symm

/-- Go's `m[k] = f(m[k])`, a missing entry read as the zero value `d` -/
theorem foldl_some_getD {α ν : Type} (f : ν → α → ν) (d : ν) : ∀ (l : List α) (o : Option ν),
    l.foldl (fun o x => some (f (o.getD d) x)) o = if l = [] then o else some (l.foldl f (o.getD d))
  | [], _ => rfl
  | x :: l, o => by rw [foldl_cons, foldl_some_getD f d l]; cases l <;> simp

theorem foldl_add_map {α : Type} (v : α → Nat) : ∀ (l : List α) (a : Nat), l.foldl (fun n x => n + v x) a = a + (l.map v).sum
  | [], _ => rfl
  | x :: l, a => by rw [foldl_cons, foldl_add_map v l, map_cons, sum_cons, Nat.add_assoc]

theorem foldl_snoc_map {α β : Type} (f : α → β) (l : List α) (acc : List β) :
    l.foldl (fun a x => a ++ [f x]) acc = acc ++ l.map f := by
  rw [foldl_append_eq_append, ← flatMap_def, ← map_eq_flatMap]

theorem foldl_fixed {σ α : Type} {f : σ → α → σ} {s : σ} {l : List α} (h : ∀ x ∈ l, f s x = s) : l.foldl f s = s :=
  foldlRecOn l f (motive := (· = s)) rfl fun _ hs x hx => hs ▸ h x hx

end List

namespace CocaVerif

/-- a run over several files; `h`: the constructor of the listener forgets the state the previous file left -/
theorem foldl_collect {σ α β : Type} (run : σ → α → σ) (out : σ → List β) (s0 : σ) (h : ∀ s a, run s a = run s0 a)
    (files : List α) : ∀ (acc : List β × σ),
    (files.foldl (fun acc f => (acc.1 ++ out (run acc.2 f), run acc.2 f)) acc).1 = acc.1 ++ files.flatMap fun f => out (run s0 f) := by
  induction files with
  | nil => intro acc; rw [List.foldl_nil, List.flatMap_nil, List.append_nil]
  | cons f fs ih => intro acc; rw [List.foldl_cons, ih, List.flatMap_cons, List.append_assoc, h acc.2 f]

end CocaVerif
