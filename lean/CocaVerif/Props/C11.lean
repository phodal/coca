/-
  C11 — Test-smell findings are exactly those evidenced in the test sources (model of tbs_app.go).
  For EVERY code model, class `d` and method `m`; the method's calls are its call list after one level of
  same-class helper inlining (`inlined clzs d m`).  `EmptyTest` deviates from the statement (known findings
  tbs-emptytest-single-call and tbs-ignore-only-empty, both expected by repository tests): the full clause `emptyTest_full`
  is refuted on a witness of the first; the witness of the second contradicts it as well but is only evaluated
  (`ignore_only_empty_witness`); the exact behaviour is `emptyTest_characterised`.
-/
import CocaVerif.Proofs.Tbs

namespace CocaVerif.Props.C11
open CocaVerif CocaVerif.Tbs CocaVerif.Gen.Tbs

/-- methods without @Test/@Ignore never produce a finding -/
theorem non_test_silent (clzs : List DS) (d : DS) (m : Fn) (h : isJunitTest m = false) :
    methodFindings clzs d m = [] := by
  simp [methodFindings, h]

/-- "is a test method" means: carries an annotation named Test or Ignore -/
theorem isJunitTest_iff (m : Fn) : isJunitTest m = true ↔ ∃ a ∈ m.annos, a.name = "Test" ∨ a.name = "Ignore" := by
  simp [isJunitTest, isTestAnno, isIgnoreAnno]

theorem finding_names_file (clzs : List DS) (d : DS) (m : Fn) : ∀ f ∈ methodFindings clzs d m, f.file = d.path := by
  intro f hf
  unfold methodFindings at hf
  split at hf
  · simp only [List.mem_append, List.mem_flatMap] at hf
    rcases hf with (⟨a, _, h | h⟩ | h) | h
    · exact eq_of_mem_ite h ▸ rfl
    · exact eq_of_mem_emptyF h ▸ rfl
    · exact callLoop_file _ _ _ _ f h
    · exact eq_of_mem_ite h ▸ rfl
  · cases hf

theorem ofType_methodFindings (clzs : List DS) (d : DS) (m : Fn) (t : String) (h : isJunitTest m = true) :
    ofType t (methodFindings clzs d m) =
      (m.annos.flatMap fun a => (if "IgnoreTest" = t then ignoreF d.path a else []) ++
        (if "EmptyTest" = t then emptyF d.path m (inlined clzs d m).length a else [])) ++
      ((inlined clzs d m).flatMap fun c => if real c then
        (if "RedundantPrintTest" = t then printF d.path c else []) ++ (if "SleepyTest" = t then sleepF d.path c else []) ++
        (if "RedundantAssertionTest" = t then redundantF d.path m c else []) else []) ++
      (if inlined clzs d m = [] then [] else if "UnknownTest" = t then
        assertF d.path m ((inlined clzs d m).any fun c => real c && hasAssertion c) else []) ++
      (if "DuplicateAssertTest" = t then dupF d.path m (inlined clzs d m) else []) := by
  simp only [methodFindings, h, if_true, callLoop_eq, ofType_append, ofType_flatMap, apply_ite (ofType t), ofType_nil, ofType_ignoreF,
    ofType_emptyF, ofType_printF, ofType_sleepF, ofType_redundantF, ofType_assertF, ofType_dupF, List.append_assoc, Bool.false_or]

/-- RedundantPrintTest: one per System.out.print/println/printf call, at that call's line -/
theorem print_exact (clzs : List DS) (d : DS) (m : Fn) (h : isJunitTest m = true) :
    ofType "RedundantPrintTest" (methodFindings clzs d m) =
      ((inlined clzs d m).filter fun c => c.fn != "" && (c.node == "System.out" && (c.fn == "println" || c.fn == "printf" || c.fn == "print"))).map
        fun c => { file := d.path, type := "RedundantPrintTest", line := c.pos.startLine } := by
  simp only [ofType_methodFindings _ _ _ _ h, String.reduceEq, if_true, if_false, ite_self, List.append_nil, List.nil_append,
    flatMap_const_nil]
  exact flatMap_ite_ite real (fun c => isSystemOutput c.node c.fn) _ _

/-- SleepyTest: one per Thread.sleep call, at that call's line -/
theorem sleepy_exact (clzs : List DS) (d : DS) (m : Fn) (h : isJunitTest m = true) :
    ofType "SleepyTest" (methodFindings clzs d m) =
      ((inlined clzs d m).filter fun c => c.fn != "" && (c.fn == "sleep" && c.node == "Thread")).map
        fun c => { file := d.path, type := "SleepyTest", line := c.pos.startLine } := by
  simp only [ofType_methodFindings _ _ _ _ h, String.reduceEq, if_true, if_false, ite_self, List.append_nil, List.nil_append,
    flatMap_const_nil]
  exact flatMap_ite_ite real (fun c => isThreadSleep c.node c.fn) _ _

/-- RedundantAssertionTest: one per two-argument call whose arguments are textually identical -/
theorem redundantAssertion_exact (clzs : List DS) (d : DS) (m : Fn) (h : isJunitTest m = true) :
    ofType "RedundantAssertionTest" (methodFindings clzs d m) =
      ((inlined clzs d m).filter fun c => c.fn != "" &&
          (match c.params with | [a, b] => a.typeValue == b.typeValue | _ => false)).map
        fun _ => { file := d.path, type := "RedundantAssertionTest", line := m.pos.startLine } := by
  simp only [ofType_methodFindings _ _ _ _ h, String.reduceEq, if_true, if_false, ite_self, List.append_nil, List.nil_append,
    flatMap_const_nil]
  have h2 : ∀ c : Call, (twoParamsCond c.params.length 2 && sameTwoArgs c) = sameTwoArgs c := by
    intro c
    unfold sameTwoArgs twoParamsCond
    match c.params with
    | [] => rfl
    | [_] => rfl
    | [_, _] => rfl
    | _ :: _ :: _ :: _ => rfl
  simp only [redundantF, h2]
  exact flatMap_ite_ite real sameTwoArgs _ _

/-- UnknownTest: one finding iff the method makes calls but none is an assertion (directly or through a helper of the
    same class: `inlined`) -/
theorem unknown_exact (clzs : List DS) (d : DS) (m : Fn) (h : isJunitTest m = true) :
    ofType "UnknownTest" (methodFindings clzs d m) =
      if inlined clzs d m ≠ [] ∧ ((inlined clzs d m).any fun c => c.fn != "" && hasAssertion c) = false then
        [{ file := d.path, type := "UnknownTest", line := m.pos.startLine }] else [] := by
  simp only [ofType_methodFindings _ _ _ _ h, String.reduceEq, if_true, if_false, ite_self, List.append_nil, List.nil_append,
    flatMap_const_nil]
  by_cases hc : inlined clzs d m = [] <;> simp [hc, assertF, real]

/-- an assertion is a call whose lower-cased name starts with one of the regenerated prefixes -/
theorem assertion_prefixes : assertionList = ["assert", "should", "check", "maynotbe", "is", "spec", "verify"] := rfl

/-- IgnoreTest: one per @Ignore annotation of the method -/
theorem ignore_exact (clzs : List DS) (d : DS) (m : Fn) (h : isJunitTest m = true) :
    ofType "IgnoreTest" (methodFindings clzs d m) =
      (m.annos.filter fun a => a.name == "Ignore").map fun _ => { file := d.path, type := "IgnoreTest", line := 0 } := by
  simp only [ofType_methodFindings _ _ _ _ h, String.reduceEq, if_true, if_false, ite_self, List.append_nil, flatMap_const_nil]
  exact flatMap_ite_singleton (fun a : Anno => a.name == "Ignore") _ _

/-- EmptyTest, as the code behaves: one per @Test annotation iff the (inlined) call list has AT MOST ONE call; nothing for
    an @Ignore-only method -/
theorem emptyTest_characterised (clzs : List DS) (d : DS) (m : Fn) (h : isJunitTest m = true) :
    ofType "EmptyTest" (methodFindings clzs d m) =
      if (inlined clzs d m).length ≤ 1 then
        (m.annos.filter fun a => a.name == "Test").map fun _ => { file := d.path, type := "EmptyTest", line := m.pos.startLine }
      else [] := by
  simp only [ofType_methodFindings _ _ _ _ h, String.reduceEq, if_true, if_false, ite_self, List.append_nil, List.nil_append,
    flatMap_const_nil]
  simp only [emptyF, emptyTestCond, decide_eq_true_eq]
  split
  · exact flatMap_ite_singleton (fun a : Anno => a.name == "Test") _ _
  · exact List.flatMap_eq_nil_iff.mpr fun _ _ => by split <;> rfl

/-- FULL clause of the statement: a test method gets EmptyTest iff its body makes no call -/
def emptyTest_full : Prop := ∀ (clzs : List DS) (d : DS) (m : Fn), isJunitTest m = true →
  ((∃ f ∈ methodFindings clzs d m, f.type = "EmptyTest") ↔ inlined clzs d m = [])

def oneCallTest : Fn := { name := "t", annos := [{ name := "Test" }], calls := [{ pkg := "p", node := "Svc", fn := "run" }] }

/-- witness (known finding tbs-emptytest-single-call): one call, yet EmptyTest is reported -/
theorem emptyTest_full_fails : ¬ emptyTest_full := by
  intro h
  have := (h [] { node := "OneCallTest", pkg := "p", path := "OneCallTest.java", fns := [oneCallTest] } oneCallTest (by decide)).mp
    ⟨{ file := "OneCallTest.java", type := "EmptyTest", line := 0 }, by decide +kernel, rfl⟩
  exact absurd this (by decide +kernel)

/-- witness (known finding tbs-ignore-only-empty): @Ignore-only, no call, no EmptyTest -/
theorem ignore_only_empty_witness :
    methodFindings [] { node := "IgnoredTest", path := "IgnoredTest.java" } { name := "t", annos := [{ name := "Ignore" }] } =
      [{ file := "IgnoredTest.java", type := "IgnoreTest", line := 0 }] := by decide +kernel

/-- DuplicateAssertTest: reported (once) iff some assertion method is called at least 5 times -/
theorem duplicateAssert_iff (clzs : List DS) (d : DS) (m : Fn) (h : isJunitTest m = true) :
    ofType "DuplicateAssertTest" (methodFindings clzs d m) =
      if isDupAssert (inlined clzs d m) then [{ file := d.path, type := "DuplicateAssertTest", line := m.pos.startLine }] else [] := by
  simp only [ofType_methodFindings _ _ _ _ h, String.reduceEq, if_true, if_false, ite_self, List.append_nil, List.nil_append,
    flatMap_const_nil]
  rfl

/-- "some assertion method is called at least 5 times", spelled out: some full callee name has ≥ 5 non-creation calls, the
    last of which is an assertion (all calls of a group share the function name) -/
theorem isDupAssert_iff (cs : List Call) : isDupAssert cs = true ↔
    ∃ k ∈ (cs.filter fun c => c.fn != "").map Call.full,
      ((cs.filter fun c => c.fn != "").filter fun c => c.full == k).length ≥ 5 ∧
      ∃ c, ((cs.filter fun c => c.fn != "").filter fun c => c.full == k).getLast? = some c ∧ hasAssertion c = true := by
  unfold isDupAssert
  simp only [List.any_eq_true, GoMap.mem_dedup, Bool.and_eq_true]
  constructor
  · rintro ⟨k, hk, hlen, hlast⟩
    refine ⟨k, hk, of_decide_eq_true hlen, ?_⟩  -- unfolds the regenerated `Gen.Tbs.dupAssertLimit` to the 5 of the statement
    split at hlast
    · rename_i c hc; exact ⟨c, hc, hlast⟩
    · simp at hlast
  · rintro ⟨k, hk, hlen, c, hc, hl⟩
    refine ⟨k, hk, decide_eq_true hlen, ?_⟩
    rw [hc]; exact hl

-- non-vacuity of the hypothesis `isJunitTest m = true`
example : isJunitTest oneCallTest = true := by decide
example : isJunitTest { name := "t", annos := [{ name := "Ignore" }, { name := "Test" }] } = true := by decide
example : isJunitTest { name := "helper", annos := [{ name := "Before" }] } = false := by decide

end CocaVerif.Props.C11
