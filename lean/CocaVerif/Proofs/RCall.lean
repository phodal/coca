import CocaVerif.Proofs.Call
import CocaVerif.Base.Fold

namespace CocaVerif.Call

/-- the loop `if p(callee) { m[callee] = append(m[callee], caller) }` -/
theorem foldl_rmap (p : String → Bool) (k : String) (sites : List (String × String)) (m : List (String × List String)) :
    GoMap.getL (sites.foldl (fun m s => if p s.2 then GoMap.set m s.2 (GoMap.getL m s.2 ++ [s.1]) else m) m) k
      = GoMap.getL m k ++ if p k then sites.filterMap (fun s => if s.2 == k then some s.1 else none) else [] := by
  -- observed at `k`, only the sites with callee `k` matter, and for those `p s.2` is `p k`
  rw [List.foldl_observe (GoMap.getL · k) (hit := fun s => p k && s.2 == k) (g := fun l s => l ++ [s.1]), List.foldl_snoc_map]
  · cases p k
    · simp
    · -- `map` after `filter` is one `filterMap`, the one of the statement up to `∘`
      simp only [Bool.true_and, if_true, ← List.filterMap_eq_map, List.filterMap_filter]
      rfl
  · intro m s
    rw [apply_ite (GoMap.getL · k), GoMap.getL_set]
    by_cases hs : s.2 = k
    · subst hs; simp
    · simp [hs]

theorem buildMethodCallMap_get (clzs : List DS) (k : String) :
    GoMap.getL (buildMethodCallMap clzs) k = rmapOf clzs k := by
  unfold buildMethodCallMap rmapOf
  rw [foldl_rmap]
  rfl

/-- `Up c t a`: `a` is `t` or a transitive caller of `t` -/
inductive Up (c : RCfg) (t : String) : String → Prop
  | refl : Up c t t
  | step {a b : String} : Up c t b → a ∈ c.mm b → Up c t a

/-- `BuildRCallChain` as a proof rule: `P` holds of the target and passes from a function to its callers (`hP`); `R st out`
    relates the state at entry to a result `out` = (items, state, `return ""` taken).  Where `chain_rule` composes the results of
    a call and of the rest of the loop, the loop here is followed through its accumulator: `R st0 (acc, st, false)`, with the
    entry state `st0` held fixed, is an invariant saying that the loop entered at `st0`, having gathered `acc` and reached `st`,
    could return here; `hsub` and `hedge` extend that prefix.  `R` has to hold of
    * `hstop`: the result when the depth test fires or the fuel is used up;
    * `hleaf`: the result for a function without callers;
    * `hnil`: a loop that has gathered nothing;
    * `hexit`: a loop that takes the `return ""`, which drops its items;
    * `hsub`: a loop that appends the result `sub` of the call on a caller `ch` (made with `last := ch`) and goes on in `sub`'s state;
    * `hedge`: a loop that appends the edge from a caller `ch` of `f`;
    * `henter`: a call at `st`, given its loop, entered with the counter raised. -/
theorem rchain_rule (c : RCfg) (P : String → Prop) (R : RSt → List Item × RSt × Bool → Prop)
    (hP : ∀ {f ch}, P f → ch ∈ c.mm f → P ch)
    (hstop : ∀ st, R st ([.blank], st, false))
    (hleaf : ∀ {st}, Gen.Call.rcallBudgetHit st.lc c.depth = false → R st ([.blank], { st with lc := st.lc + 1 }, false))
    (hnil : ∀ st, R st ([], st, false))
    (hexit : ∀ {st0 acc st}, R st0 (acc, st, false) → R st0 ([], st, true))
    (hsub : ∀ {st0 acc st ch sub}, R st0 (acc, st, false) → R { st with last := ch } sub → R st0 (acc ++ sub.1, sub.2.1, false))
    (hedge : ∀ {f ch st0 acc st}, P f → ch ∈ c.mm f → R st0 (acc, st, false) → R st0 (acc ++ [.edge ch f], st, false))
    (henter : ∀ {st out}, Gen.Call.rcallBudgetHit st.lc c.depth = false → R { st with lc := st.lc + 1 } out → R st out) :
    ∀ (fuel : Nat) (st : RSt) (f : String), P f → R st (rchain c fuel st f) := by
  intro fuel
  induction fuel with
  | zero => intro st f _; exact hstop st
  | succ n ih =>
    intro st f hf
    unfold rchain
    split
    · exact hstop st
    · rename_i hh
      have hh : Gen.Call.rcallBudgetHit st.lc c.depth = false := by simpa using hh
      split
      · exact hleaf hh
      · refine henter hh ?_
        generalize ({ st with lc := st.lc + 1 } : RSt) = st0
        have sub : ∀ acc st ch, ch ∈ c.mm f → R st0 (acc, st, false) →
            R st0 ((rsub c (rchain c n) acc st ch).1, (rsub c (rchain c n) acc st ch).2, false) := by
          intro acc st ch hch h
          unfold rsub
          split
          · exact h
          · exact hsub h (ih _ _ (hP hf hch))
        have loop : ∀ cs acc st, (∀ ch ∈ cs, ch ∈ c.mm f) → R st0 (acc, st, false) →
            R st0 (rloopWith c (rchain c n) f cs acc st) := by
          intro cs acc st
          fun_induction rloopWith c (rchain c n) f cs acc st with
          | case1 => intro _ h; exact h
          | case2 => intro _ h; exact hexit h  -- `ch == st.last`: the `return ""`
          | case3 ch rest acc st _ _ ih2 =>
            intro hs h
            obtain ⟨hch, hrest⟩ := List.forall_mem_cons.mp hs
            exact ih2 hrest (sub _ _ _ hch h)  -- `f == ch`: a self call, no edge
          | case4 ch rest acc st _ _ ih2 =>
            intro hs h
            obtain ⟨hch, hrest⟩ := List.forall_mem_cons.mp hs
            exact ih2 hrest (hedge hf hch (sub _ _ _ hch h))  -- the edge `ch -> f`
        exact loop _ _ _ (fun _ h => h) (hnil _)

theorem rchain_enter (c : RCfg) (n : Nat) (st : RSt) (f : String) (hb : Gen.Call.rcallBudgetHit st.lc c.depth = false)
    (hne : (c.mm f).isEmpty = false) :
    rchain c (n + 1) st f = rloopWith c (rchain c n) f (c.mm f) [] { st with lc := st.lc + 1 } := by
  rw [rchain, hb, hne]
  rfl

/-- every edge goes from a recorded caller into the target or one of its transitive callers -/
def RSound (c : RCfg) (t : String) (items : List Item) : Prop :=
  ∀ e ∈ edgesOf items, e.1 ∈ c.mm e.2 ∧ Up c t e.2

theorem rchain_sound (c : RCfg) (t : String) :
    ∀ (fuel : Nat) (st : RSt) (f : String), Up c t f → RSound c t (rchain c fuel st f).1 := by
  have nil : ∀ l, edgesOf l = [] → RSound c t l := fun l h e he => by rw [h] at he; cases he
  have app : ∀ {a b}, RSound c t a → RSound c t b → RSound c t (a ++ b) := fun ha hb e he => by
    rw [edgesOf_append, List.mem_append] at he
    exact he.elim (ha e) (hb e)
  refine rchain_rule c (Up c t) (fun _ out => RSound c t out.1) (hP := .step)
    (hstop := fun _ => nil _ rfl) (hleaf := fun _ => nil _ rfl) (hnil := fun _ => nil _ rfl) (hexit := fun _ => nil _ rfl)
    (hsub := app) (henter := fun _ h => h) (hedge := ?_)
  intro f ch _ acc _ hf hch ha
  refine app ha fun e he => ?_
  rw [edgesOf_edge, List.mem_singleton] at he
  subst he
  exact ⟨hch, hf⟩

theorem rsub_keeps (c : RCfg) (rec : RSt → String → List Item × RSt × Bool) (acc : List Item) (st : RSt) (ch : String) :
    ∀ e ∈ edgesOf acc, e ∈ edgesOf (rsub c rec acc st ch).1 := by
  intro e he
  unfold rsub
  split
  · exact he
  · simp only [edgesOf_append, List.mem_append]; exact Or.inl he

/-- the first conjunct carries the induction -/
theorem rloopWith_all_edges (c : RCfg) (f : String) (rec : RSt → String → List Item × RSt × Bool)
    (cs : List String) (acc : List Item) (st : RSt) : (rloopWith c rec f cs acc st).2.2 = false →
      (∀ e ∈ edgesOf acc, e ∈ edgesOf (rloopWith c rec f cs acc st).1) ∧
      (∀ ch ∈ cs, ch ≠ f → (ch, f) ∈ edgesOf (rloopWith c rec f cs acc st).1) := by
  fun_induction rloopWith c rec f cs acc st with
  | case1 => intro _; simp
  | case2 => intro h; cases h
  | case3 ch rest acc st _ hfc ih =>
    intro hna
    refine ⟨fun e he => (ih hna).1 e (rsub_keeps c rec acc st ch e he), fun x hx hne => ?_⟩
    rcases List.mem_cons.mp hx with rfl | h1
    · exact absurd (eq_of_beq hfc).symm hne
    · exact (ih hna).2 x h1 hne
  | case4 ch rest acc st _ _ ih =>
    intro hna
    have keep : ∀ e ∈ edgesOf (rsub c rec acc st ch).1, e ∈ edgesOf ((rsub c rec acc st ch).1 ++ [Item.edge ch f]) := by
      intro e he; rw [edgesOf_append]; exact List.mem_append_left _ he
    refine ⟨fun e he => (ih hna).1 e (keep e (rsub_keeps c rec acc st ch e he)), fun x hx hne => ?_⟩
    rcases List.mem_cons.mp hx with rfl | h1
    · exact (ih hna).1 _ (by simp)
    · exact (ih hna).2 x h1 hne

theorem rchain_bound (c : RCfg) (fuel : Nat) (st : RSt) (f : String) (h : st.lc ≤ c.depth) :
    (rchain c fuel st f).2.1.lc ≤ c.depth := by
  -- `rcallBudgetHit lc depth` is `decide (lc ≥ depth)`, the comparison regenerated from the Go source
  have hit : ∀ {lc}, Gen.Call.rcallBudgetHit lc c.depth = false → lc + 1 ≤ c.depth := fun h =>
    Nat.lt_of_not_le (of_decide_eq_false h)
  exact rchain_rule c (fun _ => True) (fun st out => st.lc ≤ c.depth → out.2.1.lc ≤ c.depth) (hP := fun _ _ => trivial)
    (hstop := fun _ h => h) (hleaf := fun hh _ => hit hh) (hnil := fun _ h => h) (hexit := fun h => h)
    (hsub := fun h1 h2 h => h2 (h1 h)) (hedge := fun _ _ h => h) (henter := fun hh h _ => h (hit hh)) fuel st f trivial h

end CocaVerif.Call
