/-
  C01, identifier pass (second half of the statement), the identifier clause of C07 and the front-end clause of C18 ("equal the
  values derivable from the source").  A conventional unit: package, imports, type annotations, type header, then the members in
  any order, each with any annotations on it, on its parameters and inside its body, and any `return` statements.
  Parameters are NOT carried by this pass: known finding c01-ident-params.
  `NewJavaIdentifierListener` assigns every package variable of the listener (regenerated: `Gen.Ident.unresetGlobals = []`), so a
  file's entries do not depend on the files before it (`ident_file_independent`).
-/
import CocaVerif.Model.JavaIdent
import CocaVerif.Base.Fold

namespace CocaVerif.Props.C01Ident
open CocaVerif CocaVerif.JavaIdent

theorem reset_fact : Gen.Ident.unresetGlobals = [] := rfl

theorem newListener_eq (st : ISt) : newListener st = {} := rfl

theorem newListener_const (st st' : ISt) : newListener st = newListener st' := rfl

theorem ident_file_independent (st st' : ISt) (evs : List IEv) : runFile st evs = runFile st' evs := rfl

theorem runFiles_eq (files : List (List IEv)) : ∀ (st : ISt),
    (runFiles st files).1 = files.flatMap fun f => (runFile {} f).nodes :=
  fun st => foldl_collect runFile ISt.nodes {} (fun _ _ => rfl) files ([], st)

/-- the events between and inside member declarations that declare nothing -/
def inner : IEv → Bool
  | .anno _ | .returnExpr _ => true
  | _ => false

/-- the part of a function entry the statement names -/
def sig (f : Fn) : String × String × Bool × Pos := (f.name, f.ret, f.isConstructor, f.pos)

/-- what `coca evaluate` reads of a function entry -/
def facts (f : Fn) : List Anno × List String × Bool := (f.annos, f.modifiers, f.isReturnNull)

def returnsNull : List IEv → Bool
  | [] => false
  | .returnExpr b :: r => b || returnsNull r
  | _ :: r => returnsNull r

theorem onEv_anno (st : ISt) (a : Anno) : onEv st (.anno a) =
    { st with isOverride := a.name == "Override" || st.isOverride,
              node := if st.hasEnterClass then st.node else { st.node with annos := st.node.annos ++ [a] } } := by
  obtain ⟨_, _, _, hec, _, _⟩ := st
  rw [onEv]
  cases a.name == "Override" <;> cases hec <;> rfl

theorem onEv_enterClass (st : ISt) (name : String) (ext : Option String) (impls : List String) :
    onEv st (.enterClass name ext impls) =
      { st with hasEnterClass := true, cur := {}, node := {
          st.node with type := "Class", node := name, ext := ext.getD st.node.ext, impls := impls.foldl (fun is t =>
            st.imports.foldl (fun is imp => if imp.endsWith ("." ++ t) then is ++ [imp] else is) is) st.node.impls } } := by
  -- both loops only append to `impls`, so they commute with putting a list there
  have all (d : DS) := List.foldl_hom (fun is => { d with impls := is }) (l := impls) (init := d.impls)
    (g₁ := fun is t => st.imports.foldl (fun is imp => if imp.endsWith ("." ++ t) then is ++ [imp] else is) is)
    (g₂ := fun (d : DS) t => st.imports.foldl (fun d imp => if imp.endsWith ("." ++ t) then { d with impls := d.impls ++ [imp] } else d) d)
    fun is t => List.foldl_hom (fun is => { d with impls := is }) fun is imp => by split <;> rfl
  simp only [onEv]
  rw [all]
  cases ext <;> rfl

theorem inner_fold (evs : List IEv) (h : ∀ e ∈ evs, inner e = true) (st : ISt) :
    ∃ ov nd, evs.foldl onEv st =
        { st with isOverride := ov, node := nd, cur := { st.cur with isReturnNull := st.cur.isReturnNull || returnsNull evs } } ∧
      (st.hasEnterClass = true → nd = st.node) := by
  induction evs generalizing st with
  | nil => exact ⟨st.isOverride, st.node, by simp only [returnsNull, Bool.or_false]; rfl, fun _ => rfl⟩
  | cons e evs ih =>
    obtain ⟨he, hevs⟩ := List.forall_mem_cons.1 h
    have ih := ih hevs
    cases e with
    | anno a =>
      rw [List.foldl_cons, onEv_anno]
      obtain ⟨ov, nd, h1, h2⟩ := ih { st with isOverride := _, node := _ }
      exact ⟨ov, nd, h1, fun hc => by rw [h2 hc, if_pos hc]⟩
    | returnExpr b =>
      obtain ⟨ov, nd, h1, h2⟩ := ih (onEv st (.returnExpr b))
      exact ⟨ov, nd, by rw [List.foldl_cons, h1, returnsNull, ← Bool.or_assoc]; rfl, h2⟩
    | _ => exact absurd he Bool.false_ne_true

/-- the "returns null" flag of the entry under construction is only ever SET: a later `return x;` does not clear it -/
theorem inner_run_facts (evs : List IEv) : ∀ (st : ISt), (∀ e ∈ evs, inner e = true) →
    let st' := evs.foldl onEv st
    st'.cur.annos = st.cur.annos ∧ st'.cur.modifiers = st.cur.modifiers ∧
    st'.cur.isReturnNull = (st.cur.isReturnNull || returnsNull evs) := by
  intro st h
  obtain ⟨ov, nd, h1, _⟩ := inner_fold evs h st
  rw [h1]; exact ⟨rfl, rfl, rfl⟩

inductive IMember where
  | method (pre : List IEv) (name ret : String) (annos : List Anno) (mods : List String) (pos : IP) (body : List IEv)
  | ctor (pre : List IEv) (name : String) (pos : IP) (body : List IEv)
  | field (pre : List IEv)

def IMember.events : IMember → List IEv
  | .method pre name ret fa mods pos body => pre ++ [.enterMethod name ret fa mods pos] ++ body ++ [.exitMethod]
  | .ctor pre name pos body => pre ++ [.enterCtor name pos] ++ body ++ [.exitCtor]
  | .field pre => pre

def IMember.ok : IMember → Prop
  | .method pre _ _ _ _ _ body => (∀ e ∈ pre, inner e = true) ∧ ∀ e ∈ body, inner e = true
  | .ctor pre _ _ body => (∀ e ∈ pre, inner e = true) ∧ ∀ e ∈ body, inner e = true
  | .field pre => ∀ e ∈ pre, inner e = true

def expected : List IMember → List (String × String × Bool × Pos)
  | [] => []
  | .method _ name ret _ _ pos _ :: r => (name, ret, false, posOf pos) :: expected r
  | .ctor _ name pos _ :: r => (name, "", true, posOf pos) :: expected r
  | .field _ :: r => expected r

def expectedFacts : List IMember → List (List Anno × List String × Bool)
  | [] => []
  | .method _ _ _ annos mods _ body :: r => (annos, mods, returnsNull body) :: expectedFacts r
  | .ctor _ _ _ body :: r => ([], [], returnsNull body) :: expectedFacts r
  | .field _ :: r => expectedFacts r

/-- What a run of events inside a type body does.  The appended entries have facts `xs` only if `cur` holds no annotations at the
    start (and then it holds none at the end): `enterMethod` / `interfaceMethod` put the declared annotations behind those `cur`
    holds and `enterCtor` keeps them (Go: `currentMethod.Annotations`), only the `exit…` of a method and `enterClass` empty them,
    and no `anno` event writes them. -/
def Declares (evs : List IEv) (ss : List (String × String × Bool × Pos)) (xs : List (List Anno × List String × Bool)) : Prop :=
  ∀ st : ISt, st.hasEnterClass = true → ∃ ov cur fs,
    evs.foldl onEv st = { st with isOverride := ov, cur := cur, node := { st.node with fns := st.node.fns ++ fs } } ∧
    fs.map sig = ss ∧ (st.cur.annos = [] → cur.annos = [] ∧ fs.map facts = xs)

theorem Declares.append {e₁ e₂ ss₁ ss₂ xs₁ xs₂} (h₁ : Declares e₁ ss₁ xs₁) (h₂ : Declares e₂ ss₂ xs₂) :
    Declares (e₁ ++ e₂) (ss₁ ++ ss₂) (xs₁ ++ xs₂) := by
  intro st hc
  obtain ⟨ov, cur, fs, h, hs, hf⟩ := h₁ st hc
  obtain ⟨ov', cur', fs', h', hs', hf'⟩ := h₂ { st with isOverride := ov, cur := cur, node := _ } hc
  refine ⟨ov', cur', fs ++ fs', by rw [List.foldl_append, h, h', List.append_assoc], by rw [List.map_append, hs, hs'], fun ha => ?_⟩
  obtain ⟨hf1, hf2⟩ := hf ha
  obtain ⟨hf1', hf2'⟩ := hf' hf1
  exact ⟨hf1', by rw [List.map_append, hf2, hf2']⟩

theorem inner_declares (evs : List IEv) (h : ∀ e ∈ evs, inner e = true) : Declares evs [] [] := by
  intro st hc
  obtain ⟨ov, nd, h1, h2⟩ := inner_fold evs h st
  exact ⟨ov, { st.cur with isReturnNull := st.cur.isReturnNull || returnsNull evs }, [], by rw [h1, h2 hc, List.append_nil], rfl,
    fun ha => ⟨ha, rfl⟩⟩

theorem method_declares (name ret : String) (annos : List Anno) (mods : List String) (pos : IP) (body : List IEv)
    (hb : ∀ e ∈ body, inner e = true) :
    Declares (.enterMethod name ret annos mods pos :: (body ++ [.exitMethod])) [(name, ret, false, posOf pos)]
      [(annos, mods, returnsNull body)] := by
  intro st hc
  obtain ⟨ov, nd, h, hn⟩ := inner_fold body hb (onEv st (.enterMethod name ret annos mods pos))
  rw [List.foldl_cons, List.foldl_append, h, hn rfl]
  -- `enterMethod` re-sets `hasEnterClass := true`, the value `st` has (`hc`): `rfl` sees that the two records agree only once `st`
  -- is taken apart and `hc` substituted
  obtain ⟨_, _, _, _, _, _⟩ := st
  subst hc
  exact ⟨_, _, [_], rfl, rfl, fun ha => ⟨rfl, by simp only at ha; simp only [onEv, List.map, facts, ha, List.nil_append, Bool.false_or]⟩⟩

theorem ctor_declares (name : String) (pos : IP) (body : List IEv) (hb : ∀ e ∈ body, inner e = true) :
    Declares (.enterCtor name pos :: (body ++ [.exitCtor])) [(name, "", true, posOf pos)] [([], [], returnsNull body)] := by
  intro st hc
  obtain ⟨ov, nd, h, hn⟩ := inner_fold body hb (onEv st (.enterCtor name pos))
  rw [List.foldl_cons, List.foldl_append, h, hn hc]
  exact ⟨_, _, [_], rfl, rfl, fun ha => ⟨ha, by simp only [onEv, List.map, facts, ha, Bool.false_or]⟩⟩

theorem member_declares (m : IMember) (hok : m.ok) : Declares m.events (expected [m]) (expectedFacts [m]) := by
  cases m with
  | field pre => exact inner_declares pre hok
  | method pre name ret annos mods pos body =>
    rw [IMember.events, List.append_assoc, List.append_assoc]
    exact (inner_declares pre hok.1).append (method_declares name ret annos mods pos body hok.2)
  | ctor pre name pos body =>
    rw [IMember.events, List.append_assoc, List.append_assoc]
    exact (inner_declares pre hok.1).append (ctor_declares name pos body hok.2)

theorem expected_append (a b : List IMember) : expected (a ++ b) = expected a ++ expected b := by
  induction a with
  | nil => rfl
  | cons m a ih => cases m <;> simp only [List.cons_append, expected, ih]

theorem expectedFacts_append (a b : List IMember) : expectedFacts (a ++ b) = expectedFacts a ++ expectedFacts b := by
  induction a with
  | nil => rfl
  | cons m a ih => cases m <;> simp only [List.cons_append, expectedFacts, ih]

theorem members_declares (ms : List IMember) (hok : ∀ m ∈ ms, m.ok) :
    Declares (ms.flatMap IMember.events) (expected ms) (expectedFacts ms) := by
  induction ms with
  | nil => exact inner_declares [] (List.forall_mem_nil _)
  | cons m ms ih =>
    obtain ⟨hm, hms⟩ := List.forall_mem_cons.1 hok
    rw [List.flatMap_cons, ← List.singleton_append, expected_append, expectedFacts_append]
    exact (member_declares m hm).append (ih hms)

theorem members_run : ∀ (ms : List IMember) (st : ISt), (∀ m ∈ ms, m.ok) → st.hasEnterClass = true →
    let st' := (ms.flatMap IMember.events).foldl onEv st
    st'.hasEnterClass = true ∧ st'.nodes = st.nodes ∧ { st'.node with fns := [] } = { st.node with fns := [] } ∧
    st'.node.fns.map sig = st.node.fns.map sig ++ expected ms := by
  intro ms st hok hc
  obtain ⟨ov, cur, fs, h, hs, _⟩ := members_declares ms hok st hc
  rw [h]
  exact ⟨hc, rfl, rfl, by rw [List.map_append, hs]⟩

structure IUnit where
  pkg : String
  imports : List String
  annos : List Anno
  name : String
  ext : Option String
  impls : List String
  members : List IMember

def IUnit.events (u : IUnit) : List IEv :=
  [.pkg u.pkg] ++ u.imports.map .imp ++ u.annos.map .anno ++ [.enterClass u.name u.ext u.impls] ++
    u.members.flatMap IMember.events ++ [.exitType]

theorem imports_run (imps : List String) : ∀ (st : ISt), (imps.map IEv.imp).foldl onEv st = { st with imports := st.imports ++ imps } := by
  induction imps with
  | nil => intro st; rw [List.append_nil]; rfl
  | cons i is ih => intro st; rw [List.map_cons, List.foldl_cons, ih, onEv, List.append_assoc]; rfl

theorem annos_outside (as : List Anno) : ∀ (st : ISt), st.hasEnterClass = false → (as.map IEv.anno).foldl onEv st =
    { st with isOverride := st.isOverride || as.any (·.name == "Override"), node := { st.node with annos := st.node.annos ++ as } } := by
  induction as with
  | nil => intro st _; rw [List.append_nil, List.any_nil, Bool.or_false]; rfl
  | cons a as ih =>
    intro st h
    rw [List.map_cons, List.foldl_cons, ih _ (by rw [onEv_anno]; exact h), onEv_anno, if_neg (by rw [h]; exact Bool.false_ne_true),
      List.append_assoc, List.any_cons, Bool.or_assoc, Bool.or_left_comm]
    rfl

theorem header_fold (pkg : String) (imps : List String) (as : List Anno) (st0 : ISt) :
    (as.map IEv.anno).foldl onEv ((imps.map IEv.imp).foldl onEv (onEv (newListener st0) (.pkg pkg))) =
      { node := { pkg := pkg, annos := as }, imports := imps, isOverride := as.any (·.name == "Override") } := by
  rw [newListener_eq, imports_run, annos_outside as _ rfl]
  rfl

/-- `hhd`: the type-header event turns the state after the prefix into a fresh open type `nd`; it is matched up to structure eta -/
theorem unit_fold {pkg : String} {imps : List String} {as : List Anno} {hd : IEv} {nd : DS} {body : List IEv}
    {ss : List (String × String × Bool × Pos)} {xs : List (List Anno × List String × Bool)}
    (hhd : onEv { node := { pkg := pkg, annos := as }, imports := imps, isOverride := as.any (·.name == "Override") } hd =
      { hasEnterClass := true, node := nd, imports := imps, isOverride := as.any (·.name == "Override") })
    (hname : nd.node ≠ "") (hbody : Declares body ss xs) (st0 : ISt) :
    ∃ fs ov cur, runFile st0 ([.pkg pkg] ++ imps.map .imp ++ as.map .anno ++ [hd] ++ body ++ [.exitType]) =
        { nodes := [{ nd with fns := nd.fns ++ fs }], imports := imps, isOverride := ov, cur := cur } ∧
      fs.map sig = ss ∧ fs.map facts = xs := by
  unfold runFile
  simp only [List.foldl_append, List.foldl_cons, List.foldl_nil]
  rw [header_fold, hhd]
  obtain ⟨ov, cur, fs, h, hs, hf⟩ := hbody { hasEnterClass := true, node := nd, imports := imps, isOverride := _ } rfl
  refine ⟨fs, ov, cur, ?_, hs, (hf rfl).2⟩
  rw [h]
  -- `exitType` keeps the entry because it has a name (`pushNode`)
  exact if_pos (bne_iff_ne.mpr hname)

/-- The identifier-pass clause of C01 for class units: from ANY listener state, exactly one entry, of kind "Class", with the
    package, name, superclass as written and annotations of the unit, and exactly one function entry per declared constructor /
    method, in declaration order, with its name, return type, constructor flag and position.  The last conjunct is the C18 clause:
    each function entry carries exactly the annotations and modifiers declared on THAT member - nothing is inherited from the
    member before it - and its "returns null" flag is set iff one of the `return` statements of its body mentions the null
    literal, whichever of them it is. -/
theorem ident_class_exact (u : IUnit) (hname : u.name ≠ "") (hok : ∀ m ∈ u.members, m.ok) (st0 : ISt) :
    ∃ d, (runFile st0 u.events).nodes = [d] ∧ d.pkg = u.pkg ∧ d.node = u.name ∧ d.type = "Class" ∧ d.annos = u.annos ∧
      d.ext = u.ext.getD "" ∧ d.fns.map sig = expected u.members ∧ d.fns.map facts = expectedFacts u.members := by
  obtain ⟨fs, ov, cur, h, hs, hf⟩ := unit_fold (onEv_enterClass _ u.name u.ext u.impls) hname (members_declares u.members hok) st0
  rw [IUnit.events, h]; exact ⟨_, rfl, rfl, rfl, rfl, rfl, rfl, hs, hf⟩

-- non-vacuity, and the model run on it (a test)
def demoUnit : IUnit :=
  { pkg := "p", imports := ["q.T"], annos := [], name := "A", ext := none, impls := [],
    members := [
      .field [.anno { name := "Inject" }],
      .ctor [] "A" ⟨4, 11, 4, 16⟩ [],
      .method [.anno { name := "Override" }] "run" "T" [{ name := "Override" }] ["public"] ⟨6, 11, 8, 4⟩ [.returnExpr true]] }

example : demoUnit.name ≠ "" ∧ ∀ m ∈ demoUnit.members, m.ok := by
  simp only [demoUnit, List.forall_mem_cons, List.not_mem_nil, false_imp_iff, implies_true, and_true, IMember.ok]; decide +kernel

#guard ((runFile {} demoUnit.events).nodes.map fun d => (d.node, d.fns.map (·.name))) == [("A", ["A", "run"])]

/-- non-vacuity for the C18 clause: a `@Nullable` method followed by an un-annotated one; `return null` before `return x` -/
def demoNullable : IUnit :=
  { pkg := "p", imports := [], annos := [], name := "Repo", ext := none, impls := [],
    members := [
      .method [.anno { name := "Nullable" }] "find" "T" [{ name := "Nullable" }] ["public", "static"] ⟨4, 4, 6, 4⟩ [.returnExpr false],
      .method [] "load" "T" [] ["static", "final"] ⟨8, 4, 13, 4⟩ [.returnExpr true, .returnExpr false],
      .ctor [] "Repo" ⟨15, 4, 16, 4⟩ [],
      .method [] "name" "String" [] [] ⟨18, 4, 20, 4⟩ [.returnExpr false]] }

example : demoNullable.name ≠ "" ∧ ∀ m ∈ demoNullable.members, m.ok := by
  simp only [demoNullable, List.forall_mem_cons, List.not_mem_nil, false_imp_iff, implies_true, and_true, IMember.ok]; decide +kernel

-- (tests) what the theorem promises, and the model run
#guard (expectedFacts demoNullable.members).map (fun x => (x.1.map (·.name), x.2.1, x.2.2)) ==
  [(["Nullable"], ["public", "static"], false), ([], ["static", "final"], true), ([], [], false), ([], [], false)]
#guard ((runFile {} demoNullable.events).nodes.map fun d => d.fns.map fun f => (f.annos.map (·.name), f.modifiers, f.isReturnNull)) ==
  [[(["Nullable"], ["public", "static"], false), ([], ["static", "final"], true), ([], [], false), ([], [], false)]]

/-- `annos`, `mods`: all annotation modifiers and all other modifiers of the declaration, those behind `default` included -/
structure IfMethod where
  pre : List IEv
  name : String
  ret : String
  annos : List Anno
  mods : List String
  pos : IP
  body : List IEv

def IfMethod.events (m : IfMethod) : List IEv :=
  m.pre ++ [.interfaceMethod m.name m.ret m.annos m.mods m.pos] ++ m.body ++ [.exitInterfaceMethod]

def IfMethod.ok (m : IfMethod) : Prop := (∀ e ∈ m.pre, inner e = true) ∧ ∀ e ∈ m.body, inner e = true

theorem ifmethod_declares (m : IfMethod) (hok : m.ok) :
    Declares m.events [(m.name, m.ret, false, posOf m.pos)] [(m.annos, m.mods, returnsNull m.body)] := by
  have body : Declares (.interfaceMethod m.name m.ret m.annos m.mods m.pos :: (m.body ++ [.exitInterfaceMethod]))
      [(m.name, m.ret, false, posOf m.pos)] [(m.annos, m.mods, returnsNull m.body)] := by
    intro st hc
    obtain ⟨ov, nd, h, hn⟩ := inner_fold m.body hok.2 (onEv st (.interfaceMethod m.name m.ret m.annos m.mods m.pos))
    rw [List.foldl_cons, List.foldl_append, h, hn hc]
    exact ⟨_, _, [_], rfl, rfl, fun ha => ⟨rfl, by simp only [onEv, List.map, facts, ha, List.nil_append, Bool.false_or]⟩⟩
  rw [IfMethod.events, List.append_assoc, List.append_assoc]
  exact (inner_declares m.pre hok.1).append body

theorem ifmethods_declares (ms : List IfMethod) (hok : ∀ m ∈ ms, m.ok) :
    Declares (ms.flatMap IfMethod.events) (ms.map fun m => (m.name, m.ret, false, posOf m.pos))
      (ms.map fun m => (m.annos, m.mods, returnsNull m.body)) := by
  induction ms with
  | nil => exact inner_declares [] (List.forall_mem_nil _)
  | cons m ms ih =>
    obtain ⟨hm, hms⟩ := List.forall_mem_cons.1 hok
    exact (ifmethod_declares m hm).append (ih hms)

structure IfUnit where
  pkg : String
  imports : List String
  annos : List Anno
  name : String
  methods : List IfMethod

def IfUnit.events (u : IfUnit) : List IEv :=
  [.pkg u.pkg] ++ u.imports.map .imp ++ u.annos.map .anno ++ [.enterInterface u.name] ++
    u.methods.flatMap IfMethod.events ++ [.exitType]

/-- The identifier-pass clause of C01 / C18 for interface units: as `ident_class_exact`, with kind "Interface" and one function
    entry per declared method; its modifiers (`static`, `default`, also those written behind `default`) are what the evaluation
    counts -/
theorem ident_iface_exact (u : IfUnit) (hname : u.name ≠ "") (hok : ∀ m ∈ u.methods, m.ok) (st0 : ISt) :
    ∃ d, (runFile st0 u.events).nodes = [d] ∧ d.pkg = u.pkg ∧ d.node = u.name ∧ d.type = "Interface" ∧ d.annos = u.annos ∧
      d.fns.map sig = u.methods.map (fun m => (m.name, m.ret, false, posOf m.pos)) ∧
      d.fns.map facts = u.methods.map (fun m => (m.annos, m.mods, returnsNull m.body)) := by
  obtain ⟨fs, ov, cur, h, hs, hf⟩ := unit_fold (hd := .enterInterface u.name) rfl hname (ifmethods_declares u.methods hok) st0
  rw [IfUnit.events, h]; exact ⟨_, rfl, rfl, rfl, rfl, rfl, hs, hf⟩

/-- non-vacuity and test: an abstract, a static and a default method -/
def demoIface : IfUnit :=
  { pkg := "p", imports := [], annos := [], name := "Finder",
    methods := [
      ⟨[.anno { name := "Nullable" }], "find", "T", [{ name := "Nullable" }], [], ⟨4, 4, 4, 20⟩, []⟩,
      ⟨[], "of", "Finder", [], ["public", "static"], ⟨6, 4, 8, 4⟩, [.returnExpr false]⟩,
      ⟨[.anno { name := "Deprecated" }], "first", "T", [{ name := "Deprecated" }], ["default"], ⟨10, 4, 15, 4⟩, [.returnExpr true, .returnExpr false]⟩] }

example : demoIface.name ≠ "" ∧ ∀ m ∈ demoIface.methods, m.ok := by
  unfold demoIface IfMethod.ok; decide +kernel

#guard ((runFile {} demoIface.events).nodes.map fun d => (d.type, d.fns.map fun f => (f.name, f.annos.map (·.name), f.modifiers, f.isReturnNull))) ==
  [("Interface", [("find", ["Nullable"], [], false), ("of", [], ["public", "static"], false), ("first", ["Deprecated"], ["default"], true)])]

end CocaVerif.Props.C01Ident
