/-
  C04 — Reverse call graph is the exact inverse of the project-internal call relation.
  For EVERY model and target.  "Every direct caller of the target is present" is FALSE of the code as it stands (the
  `return ""` taken on `child == lastChild`, which the repository's own test TestRCallGraph_Constructor expects): see
  `direct_callers_present_full`.
-/
import CocaVerif.Proofs.RCall

namespace CocaVerif.Props.C04
open CocaVerif.Call

/-- the reverse-call map built by the Go loop lists, for each callee, exactly the callers of the call
    sites resolving to it — one per call site, in source order — and only for declared callees. -/
theorem rmap_exact (clzs : List DS) (callee : String) :
    GoMap.getL (buildMethodCallMap clzs) callee =
      if (declared clzs).contains callee then
        (callSites clzs).filterMap fun s => if s.2 == callee then some s.1 else none
      else [] :=
  buildMethodCallMap_get clzs callee

/-- only methods declared in the project are keys with callers -/
theorem rmap_keys_declared (clzs : List DS) (callee : String)
    (h : GoMap.getL (buildMethodCallMap clzs) callee ≠ []) : callee ∈ declared clzs := by
  rw [rmap_exact] at h
  cases hd : (declared clzs).contains callee
  · rw [hd] at h; simp at h
  · simpa using hd

/-- only methods declared in the project occur as callers -/
theorem rmap_values_declared (clzs : List DS) (callee caller : String)
    (h : caller ∈ GoMap.getL (buildMethodCallMap clzs) callee) : caller ∈ declared clzs := by
  rw [rmap_exact] at h
  split at h
  · obtain ⟨s, hs, hsome⟩ := List.mem_filterMap.mp h
    simp only [callSites, List.mem_flatMap, List.mem_map] at hs
    obtain ⟨d, hd, f, hf, _, _, rfl⟩ := hs
    split at hsome
    · cases hsome
      exact List.mem_flatMap.mpr ⟨d, hd, List.mem_map.mpr ⟨f, hf, rfl⟩⟩
    · cases hsome
  · cases h

/-- every edge caller -> callee comes from the map and lies on a caller chain ending at the target -/
theorem redge_sound (c : RCfg) (fuel : Nat) (st : RSt) (target : String) :
    ∀ e ∈ edgesOf (rchain c fuel st target).1, e.1 ∈ c.mm e.2 ∧ Up c target e.2 :=
  rchain_sound c target fuel st target .refl

/-- generation terminates for every graph shape: `rchain` is total and the depth counter stays within the fixed budget -/
theorem depth_le_budget (c : RCfg) (fuel : Nat) (st : RSt) (target : String) (h : st.lc ≤ c.depth) :
    (rchain c fuel st target).2.1.lc ≤ c.depth :=
  rchain_bound c fuel st target h

/-- FULL statement of the clause "every direct caller of the target (other than itself) is present", for a fresh
    traversal state -/
def direct_callers_present_full : Prop :=
  ∀ (c : RCfg) (fuel : Nat) (target : String), 0 < c.depth →
    ∀ ch ∈ c.mm target, ch ≠ target →
      (ch, target) ∈ edgesOf (rchain c (fuel + 1) { lc := 0, last := "" } target).1

/-- what holds of the clause: whenever the top-level loop did not take the `return ""` (flag `.2.2`) -/
theorem direct_callers_present_partial (c : RCfg) (fuel : Nat) (st : RSt) (target : String)
    (hb : Gen.Call.rcallBudgetHit st.lc c.depth = false)
    (hna : (rchain c (fuel + 1) st target).2.2 = false) :
    ∀ ch ∈ c.mm target, ch ≠ target → (ch, target) ∈ edgesOf (rchain c (fuel + 1) st target).1 := by
  intro ch hch hne
  rw [rchain_enter c fuel st target hb (List.isEmpty_eq_false_iff_exists_mem.mpr ⟨ch, hch⟩)] at hna ⊢
  exact (rloopWith_all_edges c target (rchain c fuel) _ _ _ hna).2 ch hch hne

/-- the witness: T is called twice by A, and A by B -/
def witnessCfg : RCfg :=
  { mm := fun f => if f == "T" then ["A", "A"] else if f == "A" then ["B"] else [], depth := 6 }

/-- on the witness the whole graph is dropped: the direct caller A of T is missing -/
theorem dup_caller_witness :
    (rchain witnessCfg 7 { lc := 0, last := "" } "T").1 = [] ∧
    (rchain witnessCfg 7 { lc := 0, last := "" } "T").2.2 = true := by decide

theorem direct_callers_present_full_fails : ¬ direct_callers_present_full := by
  intro h
  have := h witnessCfg 6 "T" (by decide) "A" (by decide) (by decide)
  rw [dup_caller_witness.1, Call.edgesOf_nil] at this
  exact List.not_mem_nil this

-- non-vacuity of the partial theorem: a target with two distinct callers, no repeat
example : (rchain { mm := fun f => if f == "T" then ["A", "B"] else [], depth := 6 } 7 { lc := 0, last := "" } "T").2.2 = false ∧
    Gen.Call.rcallBudgetHit 0 6 = false := by decide

end CocaVerif.Props.C04
