/-
  What single callbacks of the Java full listener compute, as equations `onEv st e = { st with … }` with the regenerated flags
  put in; body events leave `core` alone and only append calls to the current method's entry (`body_run`).
-/
import CocaVerif.Model.JavaFull

namespace CocaVerif.JavaFull
open CocaVerif

/-- events the walker fires between the entry and the exit of a method or constructor declaration of a conventional unit -/
def bodyEv : Ev → Bool
  | .localVar _ _ | .creator _ _ _ _ | .call _ _ _ _ _ _ _ _ | .mref _ _ _ | .enterBlock | .exitBlock | .enterStmtScope
  | .forVar _ _ | .exitStmtScope | .formalParam _ _ | .anno _ => true
  | _ => false

/-- the body events that record a call -/
def isInv : Ev → Bool
  | .call _ _ _ _ _ _ _ _ => true
  | .creator _ _ (_ :: _) _ => true
  | .mref _ _ _ => true
  | _ => false

-- the three regenerated width functions count characters (`utf8.RuneCountInString`)
theorem width_method (x : String) : width Gen.JavaFull.methodStopWidth x = x.length := by
  simp [width, Gen.JavaFull.methodStopWidth]
theorem width_call (x : String) : width Gen.JavaFull.callStopWidth x = x.length := by
  simp [width, Gen.JavaFull.callStopWidth]
theorem width_mref (x : String) : width Gen.JavaFull.mrefStopWidth x = x.length := by
  simp [width, Gen.JavaFull.mrefStopWidth]

theorem newListener_eq (st : FSt) (ids clzs : List String) (path : String) :
    newListener st ids clzs path = { identKeys := ids, clzs := clzs, fileName := path } := by
  simp [newListener, initClass, Gen.JavaFull.resetsMapFields, Gen.JavaFull.resetsLocalVars, Gen.JavaFull.resetsFormalParameters,
    Gen.JavaFull.resetsOuterBlocks, Gen.JavaFull.resetsCurrentType, Gen.JavaFull.resetsHasEnterClass]

theorem resetMethodScope_eq (st : FSt) (h : st.curType ≠ "CreatorClass") :
    resetMethodScope st = { st with localVars := [], formalParams := [] } := by
  simp [resetMethodScope, h, Gen.JavaFull.methodScopeResetsLocalVars, Gen.JavaFull.methodScopeResetsFormalParameters]

theorem keyOf_named (st : FSt) (m : Fn) (h : m.name ≠ "") :
    keyOf st m = st.pkg ++ "." ++ st.clz ++ "." ++ m.name ++ ":" ++ toString m.pos.startLine := by
  simp [keyOf, h]

/-- `hn`: `keyOf` reads the queue only for an unnamed method, so the key may be computed before the push -/
theorem updateMethod_eq (st : FSt) (m : Fn) (hn : m.name ≠ "") :
    updateMethod st m =
      { st with curMethod := m, methodQueue := st.methodQueue ++ [m], methodMap := GoMap.set st.methodMap (keyOf st m) m } := by
  simp only [updateMethod, keyOf_named _ _ hn]

/-- the tail the three method-entry callbacks share: `buildMethodParameters`, then, unless that returned early,
    `updateMethod` once more -/
def install (st : FSt) (m : Fn) (ps : List (String × String)) : FSt :=
  let r := setParams st m ps ps.isEmpty
  if r.2 then r.1 else updateMethod r.1 r.1.curMethod

/-- the second `updateMethod` rebinds the same value and shows in the queue only -/
theorem install_spec (st : FSt) (m : Fn) (ps : List (String × String)) (hn : m.name ≠ "") (hp : m.params = [])
    (hfresh : ¬ keyOf st m ∈ GoMap.keys st.methodMap) :
    ∃ lv mq mm, install st m ps = { st with curMethod := { m with params := ps.map fun p => { typeType := p.1, typeValue := p.2 } },
                                            localVars := lv, methodQueue := mq, methodMap := mm } ∧
      GoMap.keys mm = GoMap.keys st.methodMap ++ [keyOf st m] ∧
      GoMap.get? mm (keyOf st m) = some { m with params := ps.map fun p => { typeType := p.1, typeValue := p.2 } } ∧
      ∀ q, q ≠ keyOf st m → GoMap.get? mm q = GoMap.get? st.methodMap q := by
  cases ps with
  | nil =>
    rw [List.map_nil, ← hp]  -- no parameters: `{ m with params := [] }` is `m`
    exact ⟨_, _, _, updateMethod_eq st _ hn, GoMap.keys_set_not_mem _ _ _ hfresh, GoMap.get?_set_self _ _ _,
      fun q hq => GoMap.get?_set_ne _ _ _ hq⟩
  | cons p ps =>
    have hn' : ({ m with params := (p :: ps).map fun p => { typeType := p.1, typeValue := p.2 } } : Fn).name ≠ "" := hn
    simp only [install, setParams, List.isEmpty_cons, Bool.false_eq_true, if_false]
    rw [updateMethod_eq _ _ hn', updateMethod_eq _ _ hn']
    simp only [keyOf_named _ _ hn, keyOf_named _ _ hn'] at hfresh ⊢
    refine ⟨_, _, _, rfl, ?_, GoMap.get?_set_self _ _ _, fun q hq => ?_⟩
    · rw [GoMap.keys_set_mem _ _ _ (by rw [GoMap.keys_set_not_mem _ _ _ hfresh]; simp), GoMap.keys_set_not_mem _ _ _ hfresh]
    · rw [GoMap.get?_set_ne _ _ _ hq, GoMap.get?_set_ne _ _ _ hq]

theorem install_scope (st : FSt) (m : Fn) (ps : List (String × String)) :
    (install st m ps).formalParams = st.formalParams ∧
    (install st m ps).localVars = ps.foldl (fun lv p => GoMap.set lv p.2 p.1) st.localVars := by
  cases ps <;> exact ⟨rfl, rfl⟩

/-- The field `emptyParams` of the three entry events mirrors the test on which `buildMethodParameters` returns early (the text
    of the parameter list is `()`); it is `ps.isEmpty`, as stated here and in `enterCtor_eq` / `interfaceMethod_eq`, unless a
    receiver parameter (`void m(V this)`) is all that is declared. -/
theorem enterMethod_eq (st : FSt) (name ret : String) (annos : List Anno) (ps : List (String × String)) (sl nc el : Int)
    (h : st.curType ≠ "CreatorClass") :
    onEv st (.enterMethod name ret annos ps ps.isEmpty sl nc el) =
      install { st with curMethod := { st.curMethod with annos := st.curMethod.annos ++ annos }, localVars := [], formalParams := [] }
        { name := name, ret := ret, annos := st.curMethod.annos ++ annos, override := st.isOverride,
          pos := { startLine := sl, startCol := nc, stopLine := el, stopCol := nc + name.length } } ps := by
  show install (if Gen.JavaFull.methodEntryResetsScope then resetMethodScope _ else _) _ ps = _
  rw [if_pos (show Gen.JavaFull.methodEntryResetsScope = true from rfl),
    resetMethodScope_eq { st with curMethod := { st.curMethod with annos := st.curMethod.annos ++ annos } } h, width_method]

theorem enterCtor_eq (st : FSt) (name : String) (ps : List (String × String)) (pos : P) (h : st.curType ≠ "CreatorClass") :
    onEv st (.enterCtor name ps ps.isEmpty pos) =
      install { st with localVars := [], formalParams := [] }
        { name := name, ret := "", override := st.isOverride, annos := st.curMethod.annos, isConstructor := true,
          pos := buildPosition pos name } ps := by
  show install (if Gen.JavaFull.ctorEntryResetsScope then resetMethodScope st else st) _ ps = _
  rw [if_pos (show Gen.JavaFull.ctorEntryResetsScope = true from rfl), resetMethodScope_eq st h]

theorem interfaceMethod_eq (st : FSt) (name ret : String) (annos : List Anno) (ps : List (String × String)) (pos : P)
    (h : st.curType ≠ "CreatorClass") :
    onEv st (.interfaceMethod name ret annos ps ps.isEmpty pos) =
      install { st with curMethod := { st.curMethod with annos := st.curMethod.annos ++ annos }, localVars := [], formalParams := [] }
        { name := name, ret := ret, pos := buildPosition pos name } ps := by
  show install (if Gen.JavaFull.interfaceMethodEntryResetsScope then resetMethodScope _ else _) _ ps = _
  rw [if_pos (show Gen.JavaFull.interfaceMethodEntryResetsScope = true from rfl),
    resetMethodScope_eq { st with curMethod := { st.curMethod with annos := st.curMethod.annos ++ annos } } h]

theorem parseTargetType_eq (st : FSt) (x : String) : parseTargetType st x =
    ([lookup st.localVars x, lookup st.formalParams x, lookup st.mapFields x].find? (· != "")).getD x := by
  simp only [parseTargetType, Gen.JavaFull.receiverPrecedence, List.map_cons, List.map_nil, precLookup]
  generalize List.find? _ _ = o
  cases o <;> rfl

/-- the first three resolution stages with the regenerated match conditions filled in, the later stages abstracted as `rest`:
    whenever one of the three hits, `warp` returns that hit -/
theorem warp_stages (st : FSt) (t : String) (hself : equalFold st.clz t = false) : ∃ rest, warp st t =
    match (if pureOf t != "" then st.imports.find? (fun i => i.endsWith ("." ++ pureOf t)) else none) with
    | some imp => (imp, "chain")
    | none =>
      match st.clzs.find? (fun c => c == st.pkg ++ "." ++ pureOf t) with
      | some c => (c, "same package")
      | none =>
        match st.imports.findSome? (fun imp => st.clzs.find? (fun c => c == imp ++ "." ++ pureOf t)) with
        | some c => (c, "same package")
        | none => rest := by
  unfold warp
  rw [hself]
  exact ⟨_, rfl⟩  -- `rfl` evaluates `Gen.JavaFull.importMatches` / `samePackageMatches` / `onDemandMatches`

/-- what C02 says a recorded call carries, for the event it was recorded from; the position selects the callee identifier -/
def Rec (c : Call) : Ev → Prop
  | .call _ _ callee _ args sl sc el =>
      c.fn = callee ∧ c.pos = { startLine := sl, startCol := sc, stopLine := el, stopCol := sc + callee.length } ∧
      c.params = args.map fun a => { typeType := "", typeValue := a }
  | .creator _ _ (i :: _) pos => c.type = "CreatorClass" ∧ c.node = i ∧ c.fn = "" ∧ c.pos = buildPosition pos i
  | .mref _ mn pos => c.type = "lambda" ∧ c.fn = mn ∧
      c.pos = { startLine := pos.startLine, startCol := pos.startCol, stopLine := pos.startLine, stopCol := pos.startCol + mn.length }
  | _ => False

inductive AllRec : List Call → List Ev → Prop
  | nil : AllRec [] []
  | cons {c : Call} {e : Ev} {cs : List Call} {es : List Ev} : Rec c e → AllRec cs es → AllRec (c :: cs) (e :: es)

theorem AllRec.length {cs : List Call} {es : List Ev} (h : AllRec cs es) : cs.length = es.length := by
  induction h with
  | nil => rfl
  | cons _ _ ih => simp [ih]

theorem AllRec.append {cs cs' : List Call} {es es' : List Ev} (h : AllRec cs es) (h' : AllRec cs' es') :
    AllRec (cs ++ cs') (es ++ es') := by
  induction h with
  | nil => exact h'
  | cons hr _ ih => exact .cons hr ih

/-- the part of the listener state that no body event touches -/
structure Core where
  pkg : String
  clz : String
  clzExtend : String
  curType : String
  fileName : String
  curMethod : Fn
  node : DS
  classNodes : List DS
  fields : List Field
  hasEnterClass : Bool
  methodQueue : List Fn
  imports : List String
  clzs : List String
  identKeys : List String
  mapFields : List (String × String)

def core (st : FSt) : Core :=
  { pkg := st.pkg, clz := st.clz, clzExtend := st.clzExtend, curType := st.curType, fileName := st.fileName, curMethod := st.curMethod,
    node := st.node, classNodes := st.classNodes, fields := st.fields, hasEnterClass := st.hasEnterClass, methodQueue := st.methodQueue,
    imports := st.imports, clzs := st.clzs, identKeys := st.identKeys, mapFields := st.mapFields }

theorem curKey_core {st st' : FSt} (h : core st' = core st) : keyOf st' st'.curMethod = keyOf st st.curMethod := by
  unfold keyOf
  rw [show st'.pkg = st.pkg from congrArg Core.pkg h, show st'.clz = st.clz from congrArg Core.clz h,
    show st'.methodQueue = st.methodQueue from congrArg Core.methodQueue h,
    show st'.curMethod = st.curMethod from congrArg Core.curMethod h]

/-- the effect of a step on the method table, seen from the current method's entry `f` under key `k` -/
structure Eff (st st' : FSt) (k : String) (f : Fn) (cs : List Call) : Prop where
  hcore : core st' = core st
  keys : GoMap.keys st'.methodMap = GoMap.keys st.methodMap
  others : ∀ q, q ≠ k → GoMap.get? st'.methodMap q = GoMap.get? st.methodMap q
  mine : GoMap.get? st'.methodMap k = some { f with calls := f.calls ++ cs }

theorem Eff.of_same {st st' : FSt} {k : String} {f : Fn} (hf : GoMap.get? st.methodMap k = some f)
    (hc : core st' = core st) (hm : st'.methodMap = st.methodMap) : Eff st st' k f [] :=
  ⟨hc, by rw [hm], fun _ _ => by rw [hm], by rw [hm, hf, List.append_nil]⟩

theorem Eff.trans {st st' st'' : FSt} {k : String} {f : Fn} {cs cs' : List Call} (h : Eff st st' k f cs)
    (h' : Eff st' st'' k { f with calls := f.calls ++ cs } cs') : Eff st st'' k f (cs ++ cs') :=
  ⟨h'.hcore.trans h.hcore, h'.keys.trans h.keys, fun q hq => (h'.others q hq).trans (h.others q hq),
    by rw [h'.mine, List.append_assoc]⟩

theorem addCall_eff (st s1 : FSt) (c : Call) (f : Fn) (hf : GoMap.get? st.methodMap (keyOf st st.curMethod) = some f)
    (hc : core s1 = core st) (hm : s1.methodMap = st.methodMap) :
    Eff st (addCall s1 c) (keyOf st st.curMethod) f [c] := by
  have hk : keyOf st st.curMethod ∈ GoMap.keys st.methodMap := (GoMap.get?_isSome_iff_mem_keys _ _).mp (by rw [hf]; rfl)
  simp only [addCall, curKey_core hc, hm, hf, Option.getD_some]
  exact ⟨hc, GoMap.keys_set_mem _ _ _ hk, fun q hq => GoMap.get?_set_ne _ _ _ hq, GoMap.get?_set_self _ _ _⟩

theorem scope_events (st : FSt) :
    onEv st .enterBlock = saveLocalVars st ∧ onEv st .enterStmtScope = saveLocalVars st ∧
    onEv st .exitBlock = restoreLocalVars st ∧ onEv st .exitStmtScope = restoreLocalVars st := ⟨rfl, rfl, rfl, rfl⟩

theorem saveLocalVars_eq (st : FSt) : saveLocalVars st = { st with outerLocals := st.outerLocals ++ [st.localVars] } := rfl

theorem restoreLocalVars_eq (st : FSt) : ∃ lv ol, restoreLocalVars st = { st with localVars := lv, outerLocals := ol } := by
  unfold restoreLocalVars; split <;> exact ⟨_, _, rfl⟩

theorem restoreLocalVars_snoc (st : FSt) (ol : List (List (String × String))) (lv : List (String × String))
    (h : st.outerLocals = ol ++ [lv]) : restoreLocalVars st = { st with localVars := lv, outerLocals := ol } := by
  unfold restoreLocalVars; rw [h, List.getLast?_concat, List.dropLast_concat]; rfl

theorem anno_inside (st : FSt) (a : Anno) (h : st.hasEnterClass = true) :
    onEv st (.anno a) = { st with isOverride := a.name == "Override" } :=
  if_neg (by simp [h])

theorem anno_outside (st : FSt) (a : Anno) (h : st.hasEnterClass = false) :
    onEv st (.anno a) = { st with isOverride := a.name == "Override", node := { st.node with annos := st.node.annos ++ [a] } } :=
  if_pos (by simp [h])

theorem interfaceBodyDecl_inside (st : FSt) (h : st.hasEnterClass = true) : onEv st .interfaceBodyDecl = st := by
  show { st with hasEnterClass := true } = st; rw [← h]

/-- whether a creation first enters the created type in the local-variable table, and under which name, is regenerated
    (`creatorVarGuarded`, `creatorVarOnlyFromAssignment`) and is hidden in `lv` -/
theorem creator_eq (st : FSt) (v : String) (av : Option String) (i : String) (r : List String) (pos : P) :
    ∃ lv full, onEv st (.creator v av (i :: r) pos) = addCall { st with localVars := lv }
      { pkg := removeTarget full, type := "CreatorClass", node := i, pos := buildPosition pos i } := by
  show ∃ lv full, addCall (if (_ : Bool) then _ else st) _ = _
  generalize (_ != "" || !Gen.JavaFull.creatorVarGuarded) = c
  cases c <;> exact ⟨_, _, rfl⟩

theorem quiet_step (st : FSt) (e : Ev) (hb : bodyEv e = true) (hi : isInv e = false) (hc : st.hasEnterClass = true) :
    ∃ lv fp ol ov, onEv st e = { st with localVars := lv, formalParams := fp, outerLocals := ol, isOverride := ov } := by
  cases e <;> try contradiction
  case localVar t n => cases n <;> exact ⟨_, _, _, _, rfl⟩
  case creator v av ids pos =>
    cases ids with
    | nil => exact ⟨_, _, _, _, rfl⟩
    | cons => contradiction
  case enterBlock | enterStmtScope => exact ⟨_, _, _, _, saveLocalVars_eq st⟩
  case exitBlock | exitStmtScope => obtain ⟨lv, ol, h⟩ := restoreLocalVars_eq st; exact ⟨lv, _, ol, _, h⟩
  case forVar | formalParam => exact ⟨_, _, _, _, rfl⟩
  case anno a => exact ⟨_, _, _, _, anno_inside st a hc⟩

theorem quiet_run (b : List Ev) : ∀ (st : FSt), (∀ e ∈ b, bodyEv e = true ∧ isInv e = false) → st.hasEnterClass = true →
    ∃ lv fp ol ov, b.foldl onEv st = { st with localVars := lv, formalParams := fp, outerLocals := ol, isOverride := ov } := by
  induction b with
  | nil => exact fun st _ _ => ⟨_, _, _, _, rfl⟩
  | cons e b ih =>
    intro st hb hc
    obtain ⟨he, hb⟩ := List.forall_mem_cons.mp hb
    obtain ⟨_, _, _, _, h⟩ := quiet_step st e he.1 he.2 hc
    rw [List.foldl_cons, h]
    exact ih _ hb hc

theorem body_step (st : FSt) (e : Ev) (hb : bodyEv e = true) (hc : st.hasEnterClass = true) (f : Fn)
    (hf : GoMap.get? st.methodMap (keyOf st st.curMethod) = some f) :
    ∃ cs, Eff st (onEv st e) (keyOf st st.curMethod) f cs ∧ AllRec cs ([e].filter isInv) := by
  cases hi : isInv e
  · obtain ⟨_, _, _, _, h⟩ := quiet_step st e hb hi hc
    rw [h, List.filter_cons_of_neg (Bool.eq_false_iff.mp hi)]
    exact ⟨[], Eff.of_same hf rfl rfl, .nil⟩
  · rw [List.filter_cons_of_pos hi]
    cases e <;> try contradiction
    case call _ _ callee _ _ _ _ _ =>
      exact ⟨[_], addCall_eff st st _ f hf rfl rfl, .cons ⟨rfl, by rw [← width_call callee], rfl⟩ .nil⟩
    case mref _ mn _ => exact ⟨[_], addCall_eff st st _ f hf rfl rfl, .cons ⟨rfl, rfl, by rw [← width_mref mn]⟩ .nil⟩
    case creator v av ids pos =>
      cases ids with
      | nil => contradiction
      | cons i r =>
        obtain ⟨_, _, h⟩ := creator_eq st v av i r pos
        rw [h]
        exact ⟨[_], addCall_eff st _ _ f hf rfl rfl, .cons ⟨rfl, rfl, rfl, rfl⟩ .nil⟩

/-- the current method's entry gets, in order, exactly one call per invocation / creation / method reference in the body -/
theorem body_run (b : List Ev) : ∀ (st : FSt) (f : Fn), (∀ e ∈ b, bodyEv e = true) → st.hasEnterClass = true →
    GoMap.get? st.methodMap (keyOf st st.curMethod) = some f →
    ∃ cs, Eff st (b.foldl onEv st) (keyOf st st.curMethod) f cs ∧ AllRec cs (b.filter isInv) := by
  induction b with
  | nil => exact fun st f _ _ hf => ⟨[], Eff.of_same hf rfl rfl, .nil⟩
  | cons e b ih =>
    intro st f hb hc hf
    obtain ⟨he, hb⟩ := List.forall_mem_cons.mp hb
    obtain ⟨cs1, e1, r1⟩ := body_step st e he hc f hf
    have hk := curKey_core e1.hcore
    obtain ⟨cs2, e2, r2⟩ := ih (onEv st e) { f with calls := f.calls ++ cs1 } hb
      ((congrArg Core.hasEnterClass e1.hcore).trans hc) (by rw [hk]; exact e1.mine)
    rw [hk] at e2
    refine ⟨cs1 ++ cs2, e1.trans e2, ?_⟩
    rw [← List.singleton_append, List.filter_append]
    exact r1.append r2

end CocaVerif.JavaFull
