import CocaVerif.Model.Git

namespace CocaVerif.Git

/-! Two unrelated halves.  For C15 (`FSpec` … `abs_applyChange`): the abstract file-identity semantics that the Go map refines.
    For C14 (`runC_append`, `isBody`, `runC_body`): the parser's state machine on a block -/

/-- abstract state: path ↦ file record -/
abbrev FSpec := String → Option Info

def upd (F : FSpec) (k : String) (v : Option Info) : FSpec := fun q => if k == q then v else F q

def specSwitch (F : FSpec) (old new : String) : FSpec :=
  match F old with
  | some i => upd (upd F old none) new (some { i with name := new })
  | none => F

def specApply (F : FSpec) (c : Commit) (ch : Change) : FSpec :=
  let r : FSpec × String := match fileOp ch.file with
    | .plain f => (F, f)
    | .move old new => (specSwitch F old new, new)
  let F2 := upd r.1 r.2 (some (touch c r.2 (r.1 r.2)))
  if ch.mode == "delete" then upd F2 r.2 none else F2

def specRun (commits : List Commit) : FSpec :=
  commits.foldl (fun F c => c.changes.foldl (fun F ch => specApply F c ch) F) (fun _ => none)

def abs (m : List (String × Info)) : FSpec := fun q => GoMap.get? m q

theorem abs_apply (m : List (String × Info)) (q : String) : abs m q = GoMap.get? m q := rfl

theorem abs_set (m : List (String × Info)) (k : String) (v : Info) : abs (GoMap.set m k v) = upd (abs m) k (some v) := by
  funext q; simp only [abs, upd, GoMap.get?_set]

theorem abs_erase (m : List (String × Info)) (k : String) : abs (GoMap.erase m k) = upd (abs m) k none := by
  funext q; simp only [abs, upd, GoMap.get?_erase]

theorem abs_switch (m : List (String × Info)) (old new : String) :
    abs (switchFile m old new) = specSwitch (abs m) old new := by
  unfold switchFile specSwitch
  rw [abs_apply]
  cases GoMap.get? m old with
  | none => rfl
  | some i => rw [abs_set, abs_erase]

theorem abs_applyChange (m : List (String × Info)) (c : Commit) (ch : Change) :
    abs (applyChange m c ch) = specApply (abs m) c ch := by
  unfold applyChange specApply
  -- both sides hand `touch` the old record, the left as `GoMap.get? · f`, the right as `abs · f`: `← abs_apply` turns the
  -- first into the second (where, after a rename, `abs_switch` applies to it too)
  cases fileOp ch.file <;> simp only [apply_ite abs, abs_erase, abs_set, ← abs_apply, abs_switch]

theorem runC_append (σ : Oracle) : ∀ (a b : List LineClass) (st : PState),
    runC σ st (a ++ b) = match runC σ st a with
      | .ok st' => runC σ st' b
      | .error e => .error e := by
  intro a
  induction a with
  | nil => intro b st; rfl
  | cons l ls ih =>
    intro b st
    simp only [List.cons_append, runC]
    cases stepC σ st l with
    | ok st' => exact ih b st'
    | error e => rfl

def isBody : LineClass → Bool
  | .numstat .. => true
  | .mode .. => true
  | _ => false

/-- the order of the quantifiers is the point: the new file map and pending changes depend neither on the commit being
    read nor on the commits already parsed -/
theorem runC_body (σ : Oracle) : ∀ (body : List LineClass) (fm : List (String × Change)) (cc : List Change),
    (∀ l ∈ body, isBody l = true) →
    ∃ fm' cc', ∀ cur cs, runC σ ⟨cur, fm, cc, cs⟩ body = .ok ⟨cur, fm', cc', cs⟩ := by
  intro body
  induction body with
  | nil => intro fm cc _; exact ⟨fm, cc, fun _ _ => rfl⟩
  | cons l ls ih =>
    intro fm cc h
    have hls : ∀ x ∈ ls, isBody x = true := fun x hx => h x (List.mem_cons_of_mem _ hx)
    cases l with
    | numstat a d f => simp only [runC, stepC]; exact ih _ cc hls
    | mode m f =>
      simp only [runC, stepC]
      cases GoMap.get? fm f with
      | some ch => exact ih _ cc hls
      | none => cases (m == "delete") <;> exact ih _ _ hls
    | _ => cases h _ List.mem_cons_self

end CocaVerif.Git
