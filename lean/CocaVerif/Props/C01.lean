/-
  C01 — Every declared Java type and method appears exactly once in the code model (full pass).

  `class_file_exact`: from ANY listener state, the full pass over a conventional class unit (`ClassUnit.ok`) — a package, any
  imports and class annotations, `class N [extends E] [implements I…]`, then fields, constructors and methods in any order,
  with any parameter lists and any bodies of body events — yields exactly ONE entry for the unit: package, name, kind "Class",
  source path, annotations, superclass as resolved by `buildExtend`, and exactly one function per declared constructor and
  method, in declaration order, with name, return type, ordered (type, name) parameters, constructor flag, position and, as
  its calls, one for one and in source order, the records of the invocations / creations / method references of its body
  (`Matches`, used by C02).  Conventional: names are not empty and no two members share (name, first line); the listener
  keys its method table by package.class.name:line.
  "Declaration order" is the model's: `exitBody` emits `GoMap.entries` where the Go code ranges over a map; the driver sorts
  the functions of both sides before it compares them (Drv/JavaFull.lean, `encDS`).

  That the events are what the ANTLR walker fires for the rendered file is exercised on every run, not proved.  The
  identifier pass has a model and theorems of its own (Props/C01Ident).
-/
import CocaVerif.Proofs.JavaFull

namespace CocaVerif.Props.C01
open CocaVerif CocaVerif.JavaFull

/-- a declared method or constructor as the walker reports it.  For a method `(l1, c1)` is the name token and `l2` the last
    line of the declaration (`c2` is not read); for a constructor `(l1, c1)` and `(l2, c2)` are the first and the last token of
    the declaration.  `annos` is what the method callback itself reads off the modifiers (the constructor callback reads none),
    `pre` the annotation events the walker fires for those modifiers before it enters the declaration. -/
structure FnSpec where
  isCtor : Bool
  name : String
  ret : String
  annos : List Anno
  params : List (String × String)
  l1 : Int
  c1 : Int
  l2 : Int
  c2 : Int
  pre : List Anno
  body : List Ev

def FnSpec.enter (s : FnSpec) : Ev :=
  if s.isCtor then .enterCtor s.name s.params s.params.isEmpty ⟨s.l1, s.c1, s.l2, s.c2⟩
  else .enterMethod s.name s.ret s.annos s.params s.params.isEmpty s.l1 s.c1 s.l2

def FnSpec.exit (s : FnSpec) : Ev := if s.isCtor then .exitCtor else .exitMethod

def FnSpec.events (s : FnSpec) : List Ev := s.pre.map .anno ++ [s.enter] ++ s.body ++ [s.exit]

/-- the position the statement asks for: a method's range starts at its name and ends after the name's characters; a constructor's
    is the model's own `buildPosition` of the declaration (stop column: the last token's column plus the byte length of the name),
    so that half says nothing the model does not -/
def FnSpec.pos (s : FnSpec) : Pos :=
  if s.isCtor then buildPosition ⟨s.l1, s.c1, s.l2, s.c2⟩ s.name
  else { startLine := s.l1, startCol := s.c1, stopLine := s.l2, stopCol := s.c1 + s.name.length }

def FnSpec.key (pkg clz : String) (s : FnSpec) : String := pkg ++ "." ++ clz ++ "." ++ s.name ++ ":" ++ toString s.l1

def FnSpec.ok (s : FnSpec) : Prop := s.name ≠ "" ∧ ∀ e ∈ s.body, bodyEv e = true

def Matches (f : Fn) (s : FnSpec) : Prop :=
  f.name = s.name ∧ f.ret = (if s.isCtor then "" else s.ret) ∧ f.isConstructor = s.isCtor ∧
  f.params = s.params.map (fun p => { typeType := p.1, typeValue := p.2 }) ∧ f.pos = s.pos ∧
  AllRec f.calls (s.body.filter isInv)

theorem Matches.calls {f : Fn} {s : FnSpec} (h : Matches f s) : AllRec f.calls (s.body.filter isInv) := h.2.2.2.2.2

inductive Member where
  | fn (s : FnSpec)
  | field (pre : List Anno) (typeIdent : Option String) (names : List String) (pos : P)

def Member.events : Member → List Ev
  | .fn s => s.events
  | .field pre ti names pos => pre.map .anno ++ [.field ti names pos]

def Member.spec? : Member → Option FnSpec
  | .fn s => some s
  | .field _ _ _ _ => none

/-- what no member of a unit's body changes -/
structure Hdr where
  node : String
  pkg : String
  type : String
  ext : String
  path : String
  annos : List Anno
  impls : List String
  imports : List String
  classNodes : List DS
  deriving DecidableEq

def hdr (st : FSt) : Hdr :=
  { node := st.node.node, pkg := st.node.pkg, type := st.node.type, ext := st.node.ext, path := st.fileName, annos := st.node.annos,
    impls := st.node.impls, imports := st.node.imports, classNodes := st.classNodes }

theorem hdr_of_core (st st' : FSt) (h : core st' = core st) : hdr st' = hdr st := by
  unfold hdr
  rw [show st'.node = st.node from congrArg Core.node h, show st'.fileName = st.fileName from congrArg Core.fileName h,
    show st'.classNodes = st.classNodes from congrArg Core.classNodes h]

/-- the listener state between two members of a class body, `done` being the methods and constructors declared so far -/
structure Inv (pkg clz : String) (H : Hdr) (st : FSt) (done : List FnSpec) : Prop where
  hpkg : st.pkg = pkg
  hclz : st.clz = clz
  hcur : st.curMethod = {}
  hctype : st.curType = "Class"
  hhec : st.hasEnterClass = true
  hhdr : hdr st = H
  hkeys : GoMap.keys st.methodMap = done.map (FnSpec.key pkg clz)
  hvals : ∀ s ∈ done, ∃ f, GoMap.get? st.methodMap (s.key pkg clz) = some f ∧ Matches f s

theorem annos_inside (as : List Anno) : ∀ (st : FSt), st.hasEnterClass = true →
    ∃ ov, (as.map Ev.anno).foldl onEv st = { st with isOverride := ov } := by
  induction as with
  | nil => exact fun st _ => ⟨_, rfl⟩
  | cons a as ih => intro st h; rw [List.map_cons, List.foldl_cons, anno_inside st a h]; exact ih _ h

/-- these four fields are what `annos_inside` and `field_eq` write and neither `Inv` nor `hdr` reads -/
theorem Inv.frame {pkg clz : String} {H : Hdr} {st : FSt} {done : List FnSpec} (h : Inv pkg clz H st done) (ov : Bool)
    (mf : List (String × String)) (fs : List Field) (cs : List Call) :
    Inv pkg clz H { st with isOverride := ov, mapFields := mf, fields := fs, node := { st.node with calls := cs } } done :=
  { h with }

/-- what the state looks like right after the `enter…` event of a declaration -/
structure Entered (pkg clz : String) (H : Hdr) (st S : FSt) (s : FnSpec) : Prop where
  epkg : S.pkg = pkg
  eclz : S.clz = clz
  ectype : S.curType = "Class"
  ehec : S.hasEnterClass = true
  ehdr : hdr S = H
  ecur : keyOf S S.curMethod = s.key pkg clz
  ekeys : GoMap.keys S.methodMap = GoMap.keys st.methodMap ++ [s.key pkg clz]
  others : ∀ q, q ≠ s.key pkg clz → GoMap.get? S.methodMap q = GoMap.get? st.methodMap q
  mine : ∃ f, GoMap.get? S.methodMap (s.key pkg clz) = some f ∧ f.calls = [] ∧ f.name = s.name ∧
    f.ret = (if s.isCtor then "" else s.ret) ∧ f.isConstructor = s.isCtor ∧
    f.params = s.params.map (fun p => { typeType := p.1, typeValue := p.2 }) ∧ f.pos = s.pos

def FnSpec.header (s : FnSpec) (annos : List Anno) (ov : Bool) : Fn :=
  { name := s.name, ret := if s.isCtor then "" else s.ret, annos := annos, override := ov, isConstructor := s.isCtor, pos := s.pos }

theorem enter_eq (st : FSt) (s : FnSpec) (hct : st.curType ≠ "CreatorClass") :
    ∃ cm as, onEv st s.enter =
      install { st with curMethod := cm, localVars := [], formalParams := [] } (s.header as st.isOverride) s.params := by
  unfold FnSpec.enter FnSpec.header FnSpec.pos
  cases s.isCtor
  · exact ⟨_, _, enterMethod_eq st s.name s.ret s.annos s.params s.l1 s.c1 s.l2 hct⟩
  · exact ⟨_, _, enterCtor_eq st s.name s.params ⟨s.l1, s.c1, s.l2, s.c2⟩ hct⟩

theorem exit_eq (st : FSt) (s : FnSpec) : ∃ ov, onEv st s.exit = { st with curMethod := {}, isOverride := ov } := by
  unfold FnSpec.exit; cases s.isCtor <;> exact ⟨_, rfl⟩

theorem FnSpec.keyOf_header (s : FnSpec) (hn : s.name ≠ "") (as : List Anno) (ov : Bool) (x : FSt) :
    keyOf x (s.header as ov) = s.key x.pkg x.clz := by
  rw [keyOf_named _ _ hn]
  unfold FnSpec.key FnSpec.header FnSpec.pos
  cases s.isCtor <;> rfl

theorem enter_spec (pkg clz : String) (H : Hdr) (st : FSt) (done : List FnSpec) (s : FnSpec)
    (hI : Inv pkg clz H st done) (hn : s.name ≠ "") (hfresh : ¬ s.key pkg clz ∈ done.map (FnSpec.key pkg clz)) :
    Entered pkg clz H st (onEv st s.enter) s := by
  obtain ⟨rfl, rfl, -, hct, hhec, hhdr, hkeys, -⟩ := hI
  obtain ⟨cm, as, he⟩ := enter_eq st s (by simp [hct])
  have hk := s.keyOf_header hn as st.isOverride
  obtain ⟨_, _, _, hS, h1, h2, h3⟩ := install_spec { st with curMethod := cm, localVars := [], formalParams := [] }
    (s.header as st.isOverride) s.params hn rfl (by rw [hk]; exact hkeys ▸ hfresh)
  rw [hk] at h1 h2 h3
  rw [he, hS]
  exact .mk (epkg := rfl) (eclz := rfl) (ectype := hct) (ehec := hhec) (ehdr := hhdr) (ecur := hk _) (ekeys := h1) (others := h3)
    (mine := ⟨_, h2, rfl, rfl, rfl, rfl, rfl, rfl⟩)

theorem fn_step (pkg clz : String) (H : Hdr) (st : FSt) (done : List FnSpec) (s : FnSpec)
    (hI : Inv pkg clz H st done) (hok : s.ok) (hfresh : ¬ s.key pkg clz ∈ done.map (FnSpec.key pkg clz)) :
    Inv pkg clz H (s.events.foldl onEv st) (done ++ [s]) := by
  obtain ⟨hn, hb⟩ := hok
  simp only [FnSpec.events, List.foldl_append, List.foldl_cons, List.foldl_nil]
  obtain ⟨ov, hov⟩ := annos_inside s.pre st hI.hhec
  rw [hov]
  -- `{ st with isOverride := ov }` is the framed record by eta
  have E := enter_spec pkg clz H _ done s (hI.frame ov st.mapFields st.fields st.node.calls) hn hfresh
  generalize onEv { st with isOverride := ov } s.enter = S at E
  obtain ⟨f, hf, hcalls, hname, hret, hctor, hparams, hpos⟩ := E.mine
  obtain ⟨cs, eff, hrec⟩ := body_run s.body S f hb E.ehec (by rw [E.ecur]; exact hf)
  rw [E.ecur] at eff
  generalize s.body.foldl onEv S = S' at eff
  obtain ⟨ov', hx⟩ := exit_eq S' s
  obtain ⟨hk, hv⟩ := GoMap.log_snoc hI.hkeys hI.hvals hfresh (eff.keys.trans E.ekeys)
    (fun q hq => (eff.others q hq).trans (E.others q hq)) eff.mine
    (show Matches _ s from ⟨hname, hret, hctor, hparams, hpos, by rw [show f.calls = [] from hcalls]; exact hrec⟩)
  have c := eff.hcore
  rw [hx]
  exact .mk (hpkg := (congrArg Core.pkg c).trans E.epkg) (hclz := (congrArg Core.clz c).trans E.eclz) (hcur := rfl)
    (hctype := (congrArg Core.curType c).trans E.ectype) (hhec := (congrArg Core.hasEnterClass c).trans E.ehec)
    (hhdr := (hdr_of_core _ _ c).trans E.ehdr) (hkeys := hk) (hvals := hv)

theorem field_eq (ti : Option String) (names : List String) (pos : P) (st : FSt) :
    ∃ mf fs cs, onEv st (.field ti names pos) = { st with mapFields := mf, fields := fs, node := { st.node with calls := cs } } := by
  cases ti with
  | none => exact ⟨_, _, _, rfl⟩
  | some t =>
    -- the loop body as a variable, so that the induction over `names` does not carry the lambda of `onEv`
    suffices h : ∀ (step : FSt → String → FSt),
        (∀ s n, ∃ mf fs cs, step s n = { s with mapFields := mf, fields := fs, node := { s.node with calls := cs } }) →
        ∃ mf fs cs, names.foldl step st = { st with mapFields := mf, fields := fs, node := { st.node with calls := cs } } from
      h _ fun s n => by dsimp only; split <;> exact ⟨_, _, _, rfl⟩
    intro step hs
    induction names generalizing st with
    | nil => exact ⟨_, _, _, rfl⟩
    | cons n ns ih =>
      obtain ⟨mf, fs, cs, h⟩ := hs st n
      rw [List.foldl_cons, h]; exact ih _

theorem field_step (pkg clz : String) (H : Hdr) (st : FSt) (done : List FnSpec) (pre : List Anno) (ti : Option String)
    (names : List String) (pos : P) (hI : Inv pkg clz H st done) :
    Inv pkg clz H ((Member.field pre ti names pos).events.foldl onEv st) done := by
  simp only [Member.events, List.foldl_append, List.foldl_cons]
  obtain ⟨ov, hov⟩ := annos_inside pre st hI.hhec
  obtain ⟨mf, fs, cs, hf⟩ := field_eq ti names pos { st with isOverride := ov }
  rw [hov, hf]
  exact hI.frame ov mf fs cs

def specs (ms : List Member) : List FnSpec := ms.filterMap Member.spec?

theorem members_run (pkg clz : String) (H : Hdr) : ∀ (ms : List Member) (st : FSt) (done : List FnSpec),
    Inv pkg clz H st done → (∀ s ∈ specs ms, s.ok) → ((done ++ specs ms).map (FnSpec.key pkg clz)).Nodup →
    Inv pkg clz H ((ms.flatMap Member.events).foldl onEv st) (done ++ specs ms) := by
  intro ms
  induction ms with
  | nil => intro st done hI _ _; simpa [specs] using hI
  | cons m ms ih =>
    intro st done hI hok hnd
    simp only [List.flatMap_cons, List.foldl_append]
    cases m with
    | field pre ti names pos => exact ih _ done (field_step pkg clz H st done pre ti names pos hI) hok hnd
    | fn s =>
      obtain ⟨hs, hok⟩ := List.forall_mem_cons.mp hok
      show Inv pkg clz H _ (done ++ s :: specs ms)
      rw [List.append_cons]
      exact ih _ _ (fn_step pkg clz H st done s hI hs (fresh_of_nodup _ hnd)) hok (List.append_cons done s (specs ms) ▸ hnd)

structure ClassUnit where
  pkg : String
  imports : List String
  annos : List Anno
  name : String
  ext : Option String
  impls : List String
  members : List Member

def ClassUnit.events (u : ClassUnit) : List Ev :=
  [.pkg u.pkg] ++ u.imports.map .imp ++ u.annos.map .anno ++ [.enterClass u.name u.ext u.impls] ++
    u.members.flatMap Member.events ++ [.exitBody]

def ClassUnit.ok (u : ClassUnit) : Prop :=
  u.name ≠ "" ∧ (∀ s ∈ specs u.members, s.ok) ∧ ((specs u.members).map (FnSpec.key u.pkg u.name)).Nodup

/-- the only parts of the state that type resolution (`WarpTargetFullType`) reads -/
def resolveCtx (pkg name : String) (imps clzs ids : List String) (ext : String) : FSt :=
  { pkg := pkg, clz := name, clzExtend := ext, imports := imps, clzs := clzs, identKeys := ids }

theorem warp_ctx (st : FSt) (t : String) :
    warp st t = warp (resolveCtx st.pkg st.clz st.imports st.clzs st.identKeys st.clzExtend) t := by
  unfold warp resolveCtx; rfl

theorem buildExtend_ctx (st : FSt) (e : String) :
    buildExtend st e = buildExtend (resolveCtx st.pkg st.clz st.imports st.clzs st.identKeys st.clzExtend) e := by
  unfold buildExtend; rw [← warp_ctx]

/-- the superclass entry the statement allows: the name as written, qualified by `WarpTargetFullType` when it resolves -/
def expectedExt (u : ClassUnit) (clzs ids : List String) : String :=
  match u.ext with
  | none => ""
  | some e => buildExtend (resolveCtx u.pkg u.name u.imports clzs ids e) e

inductive All2 {α β : Type} (R : α → β → Prop) : List α → List β → Prop
  | nil : All2 R [] []
  | cons {a : α} {b : β} {as : List α} {bs : List β} : R a b → All2 R as bs → All2 R (a :: as) (b :: bs)

theorem All2.length {α β : Type} {R : α → β → Prop} {as : List α} {bs : List β} (h : All2 R as bs) : as.length = bs.length := by
  induction h with
  | nil => rfl
  | cons _ _ ih => simp [ih]

theorem All2.imp {α β : Type} {R Q : α → β → Prop} (h : ∀ a b, R a b → Q a b) {as : List α} {bs : List β}
    (hr : All2 R as bs) : All2 Q as bs := by
  induction hr with
  | nil => exact All2.nil
  | cons h1 _ ih => exact All2.cons (h _ _ h1) ih

theorem entries_all2 {β : Type} (R : Fn → β → Prop) (key : β → String) (m : List (String × Fn)) (L : List β)
    (hk : GoMap.keys m = L.map key) (hv : ∀ x ∈ L, ∃ f, GoMap.get? m (key x) = some f ∧ R f x) :
    All2 R ((GoMap.entries m).map (·.2)) L := by
  -- the values of `entries m` are `get? m k` over `keys m`, and `keys m` is `L.map key`
  rw [GoMap.map_entries m _ (fun k => (GoMap.get? m k).getD {}) fun _ _ h => (congrArg (·.getD {}) h).symm, hk, List.map_map]
  clear hk
  induction L with
  | nil => exact .nil
  | cons x xs ih =>
    obtain ⟨⟨f, hf, hr⟩, hxs⟩ := List.forall_mem_cons.mp hv
    rw [List.map_cons, Function.comp_apply, hf]
    exact .cons hr (ih hxs)

theorem imports_run (imps : List String) : ∀ (st : FSt), (imps.map Ev.imp).foldl onEv st =
    { st with imports := st.imports ++ imps, node := { st.node with imports := st.node.imports ++ imps } } := by
  induction imps with
  | nil => intro st; simp
  | cons i is ih =>
    intro st
    rw [List.map_cons, List.foldl_cons, ih, List.append_cons st.imports, List.append_cons st.node.imports]; rfl

theorem annos_outside (as : List Anno) : ∀ (st : FSt), st.hasEnterClass = false →
    ∃ ov, (as.map Ev.anno).foldl onEv st = { st with isOverride := ov, node := { st.node with annos := st.node.annos ++ as } } := by
  induction as with
  | nil => intro st _; exact ⟨st.isOverride, by simp⟩
  | cons a as ih =>
    intro st h
    have e := anno_outside st a h
    obtain ⟨ov, hov⟩ := ih (onEv st (.anno a)) (by rw [e]; exact h)
    exact ⟨ov, by rw [List.map_cons, List.foldl_cons, hov, e, List.append_cons _ a as]⟩

theorem prefix_run (pkg : String) (imps : List String) (annos : List Anno) (st0 : FSt) (ids clzs : List String) (path : String) :
    ∃ ov, (annos.map Ev.anno).foldl onEv ((imps.map Ev.imp).foldl onEv (onEv (newListener st0 ids clzs path) (.pkg pkg))) =
      { identKeys := ids, clzs := clzs, fileName := path, pkg := pkg, imports := imps, isOverride := ov,
        node := { pkg := pkg, imports := imps, annos := annos } } := by
  rw [newListener_eq, imports_run]
  exact annos_outside annos
    { identKeys := ids, clzs := clzs, fileName := path, pkg := pkg, imports := imps, node := { pkg := pkg, imports := imps } } rfl

theorem enterClass_eq (A : FSt) (name : String) (ext : Option String) (impls : List String) : ∃ is,
    onEv A (.enterClass name ext impls) =
      { classHeader A name ext with node := { (classHeader A name ext).node with impls := is, type := "Class" } } := by
  suffices h : ∀ s : FSt, ∃ is, addImpls s impls = { s with node := { s.node with impls := is } } by
    obtain ⟨is, h⟩ := h (classHeader A name ext)
    exact ⟨is, congrArg (fun s : FSt => { s with node := { s.node with type := "Class" } }) h⟩
  induction impls with
  | nil => exact fun s => ⟨_, rfl⟩
  | cons i is ih => exact fun s => ih _  -- one step only writes `node.impls`, which the outer `with` overwrites

theorem class_header (u : ClassUnit) (st0 : FSt) (ids clzs : List String) (path : String) : ∃ is,
    Inv u.pkg u.name { node := u.name, pkg := u.pkg, type := "Class", ext := expectedExt u clzs ids, path := path, annos := u.annos,
                       impls := is, imports := u.imports, classNodes := [] }
      (onEv ((u.annos.map Ev.anno).foldl onEv ((u.imports.map Ev.imp).foldl onEv (onEv (newListener st0 ids clzs path) (.pkg u.pkg))))
        (.enterClass u.name u.ext u.impls)) [] := by
  obtain ⟨ov, hA⟩ := prefix_run u.pkg u.imports u.annos st0 ids clzs path
  rw [hA]
  obtain ⟨is, hS⟩ := enterClass_eq _ u.name u.ext u.impls
  rw [hS]
  obtain ⟨pkg, imps, annos, name, ext, impls, members⟩ := u
  cases ext with
  | none => exact ⟨is, rfl, rfl, rfl, rfl, rfl, rfl, rfl, fun _ h => (List.not_mem_nil h).elim⟩
  | some e =>
    -- `hhdr` is the one component that is not `rfl`: the superclass is resolved in a state that shows `warp` what `resolveCtx` holds
    exact ⟨is, rfl, rfl, rfl, rfl, rfl,
      congrArg (fun x => ({ node := name, pkg := pkg, type := "Class", ext := x, path := path, annos := annos,
                            impls := is, imports := imps, classNodes := [] } : Hdr)) (buildExtend_ctx _ e),
      rfl, fun _ h => (List.not_mem_nil h).elim⟩

theorem unit_exit (F : FSt) (H : Hdr) (hh : hdr F = H) (hn : H.node ≠ "") (hc : H.classNodes = []) :
    ∃ d, (onEv F .exitBody).classNodes = [d] ∧ d.pkg = H.pkg ∧ d.node = H.node ∧ d.type = H.type ∧ d.path = H.path ∧
      d.annos = H.annos ∧ d.imports = H.imports ∧ d.ext = H.ext ∧ d.fns = (GoMap.entries F.methodMap).map (·.2) := by
  subst hh
  -- a named unit takes the branch of `exitBody` that appends the entry
  have hx : (onEv F .exitBody).classNodes = F.classNodes ++
      [{ F.node with fields := F.fields, path := F.fileName, fns := (GoMap.entries F.methodMap).map (·.2) }] :=
    congrArg FSt.classNodes (if_neg fun h => hn (eq_of_beq h))
  exact ⟨_, hx.trans (congrArg (· ++ [_]) hc), rfl, rfl, rfl, rfl, rfl, rfl, rfl, rfl⟩

/-- C01 for class units, as the header of this file says it in words -/
theorem class_file_exact (u : ClassUnit) (hok : u.ok) (st0 : FSt) (ids clzs : List String) (path : String) :
    ∃ d, (runFile st0 ids clzs path u.events).classNodes = [d] ∧ d.pkg = u.pkg ∧ d.node = u.name ∧ d.type = "Class" ∧
      d.path = path ∧ d.annos = u.annos ∧ d.imports = u.imports ∧ d.ext = expectedExt u clzs ids ∧
      All2 Matches d.fns (specs u.members) := by
  obtain ⟨hname, hsok, hnd⟩ := hok
  unfold runFile ClassUnit.events
  simp only [List.foldl_append, List.foldl_cons, List.foldl_nil]
  obtain ⟨is, hI⟩ := class_header u st0 ids clzs path
  have hF := members_run _ _ _ u.members _ [] hI hsok (by simpa using hnd)
  generalize List.foldl onEv _ (u.members.flatMap Member.events) = F at hF
  obtain ⟨d, h1, h2, h3, h4, h5, h6, h7, h8, h9⟩ := unit_exit F _ hF.hhdr hname rfl
  exact ⟨d, h1, h2, h3, h4, h5, h6, h7, h8, h9 ▸ entries_all2 Matches _ _ _ hF.hkeys hF.hvals⟩

-- non-vacuity: a unit with two overloads of `run` meets the hypothesis; the `#guard` runs the model on it (a test, not a proof)

def demoUnit : ClassUnit :=
  { pkg := "p", imports := ["q.T"], annos := [], name := "A", ext := some "T", impls := [],
    members := [
      .field [] (some "T") ["svc"] ⟨3, 4, 3, 12⟩,
      .fn { isCtor := true, name := "A", ret := "", annos := [], params := [], l1 := 4, c1 := 11, l2 := 4, c2 := 16, pre := [], body := [] },
      .fn { isCtor := false, name := "run", ret := "void", annos := [], params := [("T", "x")], l1 := 5, c1 := 16, l2 := 7, c2 := 4, pre := [],
            body := [.formalParam "x" "T", .enterBlock, .call "svc" none "go" "go()" [] 6 12 6, .exitBlock] },
      .fn { isCtor := false, name := "run", ret := "int", annos := [], params := [], l1 := 9, c1 := 15, l2 := 9, c2 := 22, pre := [], body := [] }] }

example : demoUnit.ok := by
  unfold ClassUnit.ok demoUnit FnSpec.ok; decide +kernel

#guard ((runFile {} [] [] "A.java" demoUnit.events).classNodes.map fun d => (d.node, d.fns.map (·.name))) == [("A", ["A", "run", "run"])]

end CocaVerif.Props.C01
