import CocaVerif.Model.Git
import CocaVerif.Base.Fold

/-! C15, changelog summary: what one commit does to the number the two-level map holds for a (type, file) (`cntK_outerStep`);
    `Props.C15.changelog_exact` folds that over the history -/

namespace CocaVerif.Git
open CocaVerif.Rx

/-- the conventional-commit type of a commit's subject: group 1 of `^(\w*)(?:\((.*)\))?: (.*)$` -/
def typeOf (c : Commit) : Option String :=
  (find changeLogRe c.message.toList).map fun mt => String.ofList (mt.group c.message.toList 1)

/-- the name a change is counted under: the new name of a brace-notation rename, else the text as it stands -/
def countedFile (ch : Change) : String :=
  let r := updateMessageForChange ch.file
  if r.1 != r.2.1 then r.2.2 else r.1

/-- the names counted for type `kw` over a history, with repetitions: what `changelog_exact` counts in -/
def countedOf (kw : String) (commits : List Commit) : List String :=
  (commits.filter fun c => typeOf c == some kw).flatMap fun c => c.changes.map countedFile

def innerStep (im : List (String × Nat)) (ch : Change) : List (String × Nat) :=
  GoMap.set im (countedFile ch) ((GoMap.get? im (countedFile ch)).getD 0 + 1)

def outerStep (m : List (String × List (String × Nat))) (c : Commit) : List (String × List (String × Nat)) :=
  match typeOf c with
  | some kw => GoMap.set m kw (c.changes.foldl innerStep ((GoMap.get? m kw).getD []))
  | none => m

theorem changeMap_eq_fold (commits : List Commit) : changeMap commits = commits.foldl outerStep [] := by
  refine congrArg (commits.foldl · []) (funext fun m => funext fun c => ?_)
  simp only [outerStep, typeOf]
  cases find changeLogRe c.message.toList <;> rfl

def cnt (im : List (String × Nat)) (f : String) : Nat := (GoMap.get? im f).getD 0

def cntK (m : List (String × List (String × Nat))) (kw f : String) : Nat := cnt ((GoMap.get? m kw).getD []) f

theorem cnt_innerStep (f : String) (im : List (String × Nat)) (ch : Change) :
    cnt (innerStep im ch) f = if countedFile ch == f then cnt im f + 1 else cnt im f := by
  rw [cnt, innerStep, GoMap.get?_set_modify im _ f fun _ o => o.getD 0 + 1]
  split <;> rfl

theorem cnt_inner_fold (f : String) (chs : List Change) (im : List (String × Nat)) :
    cnt (chs.foldl innerStep im) f = cnt im f + (chs.map countedFile).count f := by
  rw [List.foldl_observe (cnt · f) (g := fun n _ => n + 1) (cnt_innerStep f), List.foldl_add_const, Nat.one_mul,
    List.count_eq_length_filter, List.filter_map, List.length_map]
  rfl

theorem cntK_outerStep (kw f : String) (m : List (String × List (String × Nat))) (c : Commit) :
    cntK (outerStep m c) kw f =
      if typeOf c == some kw then cntK m kw f + (c.changes.map countedFile).count f else cntK m kw f := by
  unfold outerStep
  cases typeOf c with
  | none => rfl
  | some k =>
    rw [cntK, GoMap.get?_set_modify m k kw fun _ o => c.changes.foldl innerStep (o.getD [])]
    simp only [Option.some.injEq, beq_iff_eq]
    split
    · exact cnt_inner_fold ..
    · rfl

end CocaVerif.Git
