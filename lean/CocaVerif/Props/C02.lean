/-
  C02 — Recorded call sites are exactly the invocations written in the source (full-pass model).

  * `calls_exact` (from `C01.class_file_exact`): for every conventional class unit, from any listener state, the calls of each
    function entry are, one for one and in source order, the records (`Rec`) of the invocations / creations / method
    references written in that body.  Nothing is lost, duplicated or attached to a neighbouring method.
  * receiver resolution, stated outright on the model of `ParseTargetType` / `WarpTargetFullType` / `BuildMethodCallMethod`:
    a local variable hides a parameter hides a field (`receiver_*`); a plain type resolves to the first import whose whole
    last segment it is (`warp_import`), else to the project type of the current package (`warp_same_package`), else to the
    class of that name in the first on-demand import that has one (`warp_on_demand`); the call is recorded against that
    simple name and the package of the full type (`call_resolved`), an unqualified call against the class itself
    (`call_implicit`).
  * scoping: a method or constructor starts with no locals or parameters of an earlier one (`method_entry_scope`,
    `ctor_entry_scope`); what a block, for or switch statement declares is forgotten at its end (`scoped_restores`), for
    every well-bracketed body.
-/
import CocaVerif.Props.C01
import CocaVerif.Base.Fold

namespace CocaVerif.Props.C02
open CocaVerif CocaVerif.JavaFull CocaVerif.Props.C01

theorem calls_exact (u : ClassUnit) (hok : u.ok) (st0 : FSt) (ids clzs : List String) (path : String) :
    ∃ d, (runFile st0 ids clzs path u.events).classNodes = [d] ∧
      All2 (fun f s => f.name = s.name ∧ AllRec f.calls (s.body.filter isInv)) d.fns (specs u.members) := by
  obtain ⟨d, h1, _, _, _, _, _, _, _, hm⟩ := class_file_exact u hok st0 ids clzs path
  exact ⟨d, h1, hm.imp fun _ _ h => ⟨h.1, h.calls⟩⟩

theorem call_count (f : Fn) (s : FnSpec) (h : Matches f s) : f.calls.length = (s.body.filter isInv).length :=
  h.calls.length

/-- the regenerated order of the if-chain of `ParseTargetType`, which `parseTargetType_eq` (and with it `receiver_*`) unfolds;
    nothing uses this lemma: a changed order fails here with a readable goal -/
theorem precedence_fact : Gen.JavaFull.receiverPrecedence = ["localVarType != \"\"", "formalType != \"\"", "fieldType != \"\""] := rfl

theorem receiver_local (st : FSt) (x t : String) (h : lookup st.localVars x = t) (ht : t ≠ "") : parseTargetType st x = t := by
  rw [parseTargetType_eq, h]; simp [ht]

theorem receiver_formal (st : FSt) (x t : String) (hl : lookup st.localVars x = "") (h : lookup st.formalParams x = t) (ht : t ≠ "") :
    parseTargetType st x = t := by
  rw [parseTargetType_eq, hl, h]; simp [ht]

theorem receiver_field (st : FSt) (x t : String) (hl : lookup st.localVars x = "") (hf : lookup st.formalParams x = "")
    (h : lookup st.mapFields x = t) (ht : t ≠ "") : parseTargetType st x = t := by
  rw [parseTargetType_eq, hl, hf, h]; simp [ht]

theorem receiver_unknown (st : FSt) (x : String) (hl : lookup st.localVars x = "") (hf : lookup st.formalParams x = "")
    (h : lookup st.mapFields x = "") : parseTargetType st x = x := by
  rw [parseTargetType_eq, hl, hf, h]; rfl

theorem warp_import (st : FSt) (t imp : String) (hself : equalFold st.clz t = false) (hp : pureOf t ≠ "")
    (h : st.imports.find? (fun i => i.endsWith ("." ++ pureOf t)) = some imp) : warp st t = (imp, "chain") := by
  obtain ⟨_, hw⟩ := warp_stages st t hself
  rw [hw, if_pos (bne_iff_ne.mpr hp), h]

theorem warp_same_package (st : FSt) (t : String) (hself : equalFold st.clz t = false)
    (hi : st.imports.find? (fun i => i.endsWith ("." ++ pureOf t)) = none)
    (h : (st.pkg ++ "." ++ pureOf t) ∈ st.clzs) : warp st t = (st.pkg ++ "." ++ pureOf t, "same package") := by
  obtain ⟨_, hw⟩ := warp_stages st t hself
  rw [hw, hi, ite_self, find?_beq_of_mem h]

/-- `import p.*;` is recorded as `p`; this stage wins over a class of that name in any other package (/repo commit 002f493) -/
theorem warp_on_demand (st : FSt) (t c : String) (hself : equalFold st.clz t = false)
    (hi : st.imports.find? (fun i => i.endsWith ("." ++ pureOf t)) = none)
    (hs : st.clzs.find? (fun c => c == st.pkg ++ "." ++ pureOf t) = none)
    (h : st.imports.findSome? (fun imp => st.clzs.find? (fun c => c == imp ++ "." ++ pureOf t)) = some c) :
    warp st t = (c, "same package") := by
  obtain ⟨_, hw⟩ := warp_stages st t hself
  rw [hw, hi, ite_self, hs, h]

-- (test) `Helper` seen through `import com.shop.user.*;`, with another Helper, in com.shop.order, first in the list of known classes
#guard warp { pkg := "com.shop", clz := "Order", imports := ["java.util.List", "com.shop.user"],
              clzs := ["com.shop.order.Helper", "com.shop.user.Helper", "com.shop.Order"] } "Helper" ==
    ("com.shop.user.Helper", "same package")

theorem call_resolved (st : FSt) (x callee ctx : String) (args : List String) (sl sc el : Int) (full : String)
    (hw : (warp st (parseTargetType st x)).1 = full) (hfull : full ≠ "")
    (hs : parseTargetType st x ≠ "super") (hc : callee ≠ "super") (hch : isChainCall (parseTargetType st x) = false) :
    ∃ c, onEv st (.call x none callee ctx args sl sc el) = addCall st c ∧ c.node = parseTargetType st x ∧
      c.pkg = removeTarget full ∧ c.fn = callee := by
  refine ⟨_, rfl, ?_, ?_, rfl⟩
  -- `onCall`: not `super` and a full type found, so the pair is (receiver type, `removeTarget full`); not a chain call, so the node is its first component
  · simp [hw, hfull, hs, hc, hch]
  · simp [hw, hfull, hs, hc]

/-- `hp`, `hw`, `hi`: no table entry, no type and no static import of that name.  `hch`: a receiver that looks like a chain call
    (has `(`, `)` and `.`) goes through `ParseTargetType` once more; `st` is any state here, and the name of a Java class never
    looks so. -/
theorem call_implicit (st : FSt) (callee text : String) (args : List String) (sl sc el : Int)
    (hp : parseTargetType st text = text) (hw : (warp st text).1 = "") (hs : text ≠ "super") (hc : callee ≠ "super")
    (hi : ∀ imp ∈ st.imports, imp.endsWith ("." ++ callee) = false) (hch : isChainCall st.clz = false) :
    ∃ c, onEv st (.call text none callee text args sl sc el) = addCall st c ∧ c.node = st.clz ∧ c.pkg = st.pkg ∧ c.fn = callee := by
  have hfold (acc : String × String) :
      st.imports.foldl (fun (acc : String × String) imp => if imp.endsWith ("." ++ callee) then (imp, "") else acc) acc = acc :=
    List.foldl_fixed fun imp h => by rw [hi imp h, if_neg Bool.false_ne_true]
  refine ⟨_, rfl, ?_, ?_, rfl⟩
  -- no full type, so `handleEmpty`: the context text IS the receiver text (an unqualified call), the import fold is fixed, so (class, package)
  · simp [hp, hw, hs, hc, handleEmpty, hfold, hch]
  · simp [hp, hw, hs, hc, handleEmpty, hfold]

theorem method_entry_scope (st : FSt) (name ret : String) (annos : List Anno) (params : List (String × String)) (sl nc el : Int)
    (h : st.curType = "Class") :
    let S := onEv st (.enterMethod name ret annos params params.isEmpty sl nc el)
    S.formalParams = [] ∧ S.localVars = params.foldl (fun lv p => GoMap.set lv p.2 p.1) [] := by
  rw [enterMethod_eq st name ret annos params sl nc el (by simp [h])]
  exact install_scope _ _ params

theorem ctor_entry_scope (st : FSt) (name : String) (params : List (String × String)) (pos : P) (h : st.curType = "Class") :
    let S := onEv st (.enterCtor name params params.isEmpty pos)
    S.formalParams = [] ∧ S.localVars = params.foldl (fun lv p => GoMap.set lv p.2 p.1) [] := by
  rw [enterCtor_eq st name params pos (by simp [h])]
  exact install_scope _ _ params

/-- body events that neither open nor close a scope -/
def plainEv : Ev → Bool
  | .localVar _ _ | .creator _ _ _ _ | .call _ _ _ _ _ _ _ _ | .mref _ _ _ | .forVar _ _ | .formalParam _ _ | .anno _ => true
  | _ => false

/-- well-bracketed bodies: blocks and for / switch statements nest -/
inductive Balanced : List Ev → Prop
  | nil : Balanced []
  | plain {e : Ev} {rest : List Ev} : plainEv e = true → Balanced rest → Balanced (e :: rest)
  | block {inner rest : List Ev} : Balanced inner → Balanced rest → Balanced (.enterBlock :: (inner ++ .exitBlock :: rest))
  | stmt {inner rest : List Ev} : Balanced inner → Balanced rest → Balanced (.enterStmtScope :: (inner ++ .exitStmtScope :: rest))

theorem plain_outer (st : FSt) (e : Ev) (h : plainEv e = true) : (onEv st e).outerLocals = st.outerLocals := by
  cases e <;> try contradiction
  case localVar t n => cases n <;> rfl
  case creator v av ids pos =>
    cases ids with
    | nil => rfl
    | cons i r => obtain ⟨_, _, h⟩ := creator_eq st v av i r pos; rw [h]; rfl
  case call | mref | forVar | formalParam => rfl
  case anno a => show (if _ then _ else _ : FSt).outerLocals = _; split <;> rfl

/-- the regenerated facts `scoped_restores` rests on (through `scope_events`, `saveLocalVars_eq`, `restoreLocalVars_snoc`, which
    evaluate them by `rfl`; nothing uses this lemma: a changed fact fails here with a readable goal).
    The two `…OnlyForSwitch` are not read by the model: `EnterStatement` / `ExitStatement` save and restore for `for` and `switch`
    only, which is when vlib/javagen.py emits `enterStmtScope` / `exitStmtScope`. -/
theorem save_restore_facts : Gen.JavaFull.blockSavesLocals = true ∧ Gen.JavaFull.blockRestoresLocals = true ∧
    Gen.JavaFull.forSavesLocals = true ∧ Gen.JavaFull.forRestoresLocals = true ∧ Gen.JavaFull.saveAppends = true ∧
    Gen.JavaFull.restoreAssigns = true ∧ Gen.JavaFull.stmtSaveOnlyForSwitch = true ∧ Gen.JavaFull.stmtRestoreOnlyForSwitch = true ∧
    Gen.JavaFull.forVarRecorded = true := ⟨rfl, rfl, rfl, rfl, rfl, rfl, rfl, rfl, rfl⟩

theorem pop_push (st S : FSt) (h : S.outerLocals = (saveLocalVars st).outerLocals) :
    (restoreLocalVars S).outerLocals = st.outerLocals ∧ (restoreLocalVars S).localVars = st.localVars := by
  rw [restoreLocalVars_snoc S _ _ h]; exact ⟨rfl, rfl⟩

theorem balanced_outer {b : List Ev} (hb : Balanced b) : ∀ (st : FSt), (b.foldl onEv st).outerLocals = st.outerLocals := by
  induction hb with
  | nil => intro st; rfl
  | plain hp _ ih => intro st; rw [List.foldl_cons, ih, plain_outer st _ hp]
  | block _ _ ih1 ih2 | stmt _ _ ih1 ih2 =>
    intro st
    simp only [List.foldl_cons, List.foldl_append, ih2, scope_events]
    exact (pop_push st _ (ih1 _)).1

theorem scoped_restores {inner : List Ev} (hb : Balanced inner) (st : FSt) :
    ((Ev.enterBlock :: (inner ++ [Ev.exitBlock])).foldl onEv st).localVars = st.localVars ∧
    ((Ev.enterStmtScope :: (inner ++ [Ev.exitStmtScope])).foldl onEv st).localVars = st.localVars := by
  simp only [List.foldl_cons, List.foldl_append, List.foldl_nil, scope_events]
  have h := (pop_push st _ (balanced_outer hb (saveLocalVars st))).2
  exact ⟨h, h⟩

-- non-vacuity: a unit with a field hidden by a parameter and by a block-local

def demo : ClassUnit :=
  { pkg := "com.shop", imports := ["org.lib.Tool", "com.shop.order.MyOrder"], annos := [⟨"Service", []⟩], name := "A", ext := none, impls := [],
    members := [
      .field [] (some "Tool") ["svc"] ⟨5, 4, 5, 20⟩,
      .fn { isCtor := false, name := "run", ret := "void", annos := [], params := [("Order", "svc")], l1 := 6, c1 := 16, l2 := 12, c2 := 0,
            pre := [],
            body := [.formalParam "svc" "Order", .enterBlock,
                     .call "svc" none "save" "save()" [] 7 12 7,                     -- parameter `Order svc` hides the field
                     .enterBlock, .localVar "MyOrder" (some "svc"), .call "svc" none "find" "find()" [] 9 16 9, .exitBlock,
                     .call "svc" none "of" "of()" [] 11 12 11,                       -- the block-local is gone again
                     .call "process()" none "process" "process()" [] 11 30 11,
                     .exitBlock] }] }

-- (package, receiver type, callee, column range) of the recorded calls: Order (same package), MyOrder (import,
-- not Order's import: whole segment), Order again, then the class itself for the unqualified call
#guard ((runFile {} ["com.shop.A", "com.shop.Order", "com.other.Order"] ["com.other.Order", "com.shop.A", "com.shop.Order"] "A.java" demo.events).classNodes.map
    fun d => d.fns.map fun f => f.calls.map fun c => (c.pkg, c.node, c.fn, c.pos.startCol, c.pos.stopCol))
  == [[[("com.shop", "Order", "save", 12, 16), ("com.shop.order", "MyOrder", "find", 16, 20), ("com.shop", "Order", "of", 12, 14),
        ("com.shop", "A", "process", 30, 37)]]]

end CocaVerif.Props.C02
