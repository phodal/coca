/-
  C01, full pass, interface units.  `iface_file_exact`: from ANY listener state, a conventional interface unit (package, imports,
  annotations, `interface N [extends …]`, method declarations with any annotations and parameter lists) yields exactly one
  entry with package, name, kind "Interface", path, annotations, imports, and exactly one function per declared method, in
  declaration order (the model's, see Props/C01), with name, return type, ordered (type, name) parameters and position, no
  calls — provided names are not empty and no two methods share (name, first line).
-/
import CocaVerif.Props.C01

namespace CocaVerif.Props.C01Iface
open CocaVerif CocaVerif.JavaFull CocaVerif.Props.C01

/-- a declared interface method as the walker reports it: `(l1, c1)` and `(l2, c2)` are the first and the last token of the
    declaration; `annos` and `pre` are as in `C01.FnSpec` -/
structure IMethod where
  name : String
  ret : String
  annos : List Anno
  params : List (String × String)
  l1 : Int
  c1 : Int
  l2 : Int
  c2 : Int
  pre : List Anno
  tail : List Ev          -- formal parameters and their annotations

def IMethod.events (m : IMethod) : List Ev :=
  [.interfaceBodyDecl] ++ m.pre.map .anno ++ [.interfaceMethod m.name m.ret m.annos m.params m.params.isEmpty ⟨m.l1, m.c1, m.l2, m.c2⟩] ++ m.tail

def IMethod.key (pkg : String) (m : IMethod) : String := pkg ++ "." ++ "" ++ "." ++ m.name ++ ":" ++ toString m.l1

def IMethod.ok (m : IMethod) : Prop := m.name ≠ "" ∧ ∀ e ∈ m.tail, bodyEv e = true ∧ isInv e = false

def IMatch (f : Fn) (m : IMethod) : Prop :=
  f.name = m.name ∧ f.ret = m.ret ∧ f.params = m.params.map (fun p => { typeType := p.1, typeValue := p.2 }) ∧
  f.pos = buildPosition ⟨m.l1, m.c1, m.l2, m.c2⟩ m.name ∧ f.calls = [] ∧ f.isConstructor = false

structure IInv (pkg : String) (H : Hdr) (st : FSt) (done : List IMethod) : Prop where
  hpkg : st.pkg = pkg
  hclz : st.clz = ""
  hctype : st.curType = "Interface"
  hhec : st.hasEnterClass = true
  hhdr : hdr st = H
  hkeys : GoMap.keys st.methodMap = done.map (IMethod.key pkg)
  hvals : ∀ s ∈ done, ∃ f, GoMap.get? st.methodMap (s.key pkg) = some f ∧ IMatch f s

/-- the listener holds no class name inside an interface: package..name:line -/
theorem IMethod.keyOf_header (m : IMethod) (hn : m.name ≠ "") (x : FSt) (hc : x.clz = "") :
    keyOf x { name := m.name, ret := m.ret, pos := buildPosition ⟨m.l1, m.c1, m.l2, m.c2⟩ m.name } = m.key x.pkg := by
  rw [keyOf_named _ _ hn, hc]; rfl

theorem imethod_step (pkg : String) (H : Hdr) (st : FSt) (done : List IMethod) (m : IMethod)
    (hI : IInv pkg H st done) (hok : m.ok) (hfresh : ¬ m.key pkg ∈ done.map (IMethod.key pkg)) :
    IInv pkg H (m.events.foldl onEv st) (done ++ [m]) := by
  obtain ⟨hn, htail⟩ := hok
  obtain ⟨rfl, hclz, hct, hhec, hhdr, hkeys, hvals⟩ := hI
  simp only [IMethod.events, List.foldl_append, List.foldl_cons, List.foldl_nil]
  obtain ⟨ov, hov⟩ := annos_inside m.pre st hhec
  rw [interfaceBodyDecl_inside st hhec, hov]
  have he := interfaceMethod_eq { st with isOverride := ov } m.name m.ret m.annos m.params ⟨m.l1, m.c1, m.l2, m.c2⟩
    (by simp [hct])
  generalize ({ st.curMethod with annos := st.curMethod.annos ++ m.annos } : Fn) = cm at he
  have hk := m.keyOf_header hn { st with isOverride := ov, curMethod := cm, localVars := [], formalParams := [] } hclz
  obtain ⟨_, _, _, hS, h1, h2, h3⟩ := install_spec { st with isOverride := ov, curMethod := cm, localVars := [], formalParams := [] }
    { name := m.name, ret := m.ret, pos := buildPosition ⟨m.l1, m.c1, m.l2, m.c2⟩ m.name } m.params hn rfl (by rw [hk]; exact hkeys ▸ hfresh)
  rw [hk] at h1 h2 h3
  obtain ⟨hk', hv'⟩ := GoMap.log_snoc hkeys hvals hfresh h1 h3 h2 (show IMatch _ m from ⟨rfl, rfl, rfl, rfl, rfl, rfl⟩)
  obtain ⟨_, _, _, _, hq⟩ := quiet_run m.tail (onEv { st with isOverride := ov } _) htail (by rw [he, hS]; exact hhec)
  rw [hq, he, hS]
  exact ⟨rfl, hclz, hct, hhec, hhdr, hk', hv'⟩

theorem imethods_run (pkg : String) (H : Hdr) : ∀ (ms : List IMethod) (st : FSt) (done : List IMethod),
    IInv pkg H st done → (∀ m ∈ ms, m.ok) → ((done ++ ms).map (IMethod.key pkg)).Nodup →
    IInv pkg H ((ms.flatMap IMethod.events).foldl onEv st) (done ++ ms) := by
  intro ms
  induction ms with
  | nil => intro st done hI _ _; rwa [List.append_nil]
  | cons m ms ih =>
    intro st done hI hok hnd
    obtain ⟨hm, hok⟩ := List.forall_mem_cons.mp hok
    rw [List.flatMap_cons, List.foldl_append, List.append_cons]
    exact ih _ _ (imethod_step pkg H st done m hI hm (fresh_of_nodup _ hnd)) hok (List.append_cons done m ms ▸ hnd)

structure IfaceUnit where
  pkg : String
  imports : List String
  annos : List Anno
  name : String
  exts : List String
  methods : List IMethod

def IfaceUnit.events (u : IfaceUnit) : List Ev :=
  [.pkg u.pkg] ++ u.imports.map .imp ++ u.annos.map .anno ++ [.enterInterface u.name u.exts] ++
    u.methods.flatMap IMethod.events ++ [.exitBody]

def IfaceUnit.ok (u : IfaceUnit) : Prop :=
  u.name ≠ "" ∧ (∀ m ∈ u.methods, m.ok) ∧ (u.methods.map (IMethod.key u.pkg)).Nodup

theorem enterInterface_eq (A : FSt) (name : String) (exts : List String) : ∃ x,
    onEv A (.enterInterface name exts) =
      { A with hasEnterClass := true, curType := "Interface", node := { A.node with node := name, ext := x, type := "Interface" } } := by
  suffices h : ∀ s : FSt, ∃ x, exts.foldl (fun (s : FSt) e => { s with node := { s.node with ext := buildExtend s e } }) s =
      { s with node := { s.node with ext := x } } by
    obtain ⟨x, h⟩ := h { A with hasEnterClass := true, curType := "Interface", node := { A.node with node := name } }
    refine ⟨x, ?_⟩
    show ({ (exts.foldl _ _ : FSt) with node := _ } : FSt) = _
    rw [h]
  induction exts with
  | nil => exact fun s => ⟨_, rfl⟩
  | cons e es ih => exact fun s => ih _  -- one step only writes `node.ext`, which the outer `with` overwrites

theorem iface_header (u : IfaceUnit) (st0 : FSt) (ids clzs : List String) (path : String) : ∃ x,
    IInv u.pkg { node := u.name, pkg := u.pkg, type := "Interface", ext := x, path := path, annos := u.annos,
                 impls := [], imports := u.imports, classNodes := [] }
      (onEv ((u.annos.map Ev.anno).foldl onEv ((u.imports.map Ev.imp).foldl onEv (onEv (newListener st0 ids clzs path) (.pkg u.pkg))))
        (.enterInterface u.name u.exts)) [] := by
  obtain ⟨ov, hA⟩ := prefix_run u.pkg u.imports u.annos st0 ids clzs path
  rw [hA]
  obtain ⟨x, hS⟩ := enterInterface_eq _ u.name u.exts
  rw [hS]
  exact ⟨x, rfl, rfl, rfl, rfl, rfl, rfl, fun _ h => (List.not_mem_nil h).elim⟩

/-- C01 for interface units, as the header of this file says it in words -/
theorem iface_file_exact (u : IfaceUnit) (hok : u.ok) (st0 : FSt) (ids clzs : List String) (path : String) :
    ∃ d, (runFile st0 ids clzs path u.events).classNodes = [d] ∧ d.pkg = u.pkg ∧ d.node = u.name ∧ d.type = "Interface" ∧
      d.path = path ∧ d.annos = u.annos ∧ d.imports = u.imports ∧ All2 IMatch d.fns u.methods := by
  obtain ⟨hname, hsok, hnd⟩ := hok
  unfold runFile IfaceUnit.events
  simp only [List.foldl_append, List.foldl_cons, List.foldl_nil]
  obtain ⟨x, hI⟩ := iface_header u st0 ids clzs path
  have hF := imethods_run _ _ u.methods _ [] hI hsok (by simpa using hnd)
  generalize List.foldl onEv _ (u.methods.flatMap IMethod.events) = F at hF
  obtain ⟨d, h1, h2, h3, h4, h5, h6, h7, _, h9⟩ := unit_exit F _ hF.hhdr hname rfl
  exact ⟨d, h1, h2, h3, h4, h5, h6, h7, h9 ▸ entries_all2 IMatch _ _ _ hF.hkeys hF.hvals⟩

-- non-vacuity: an interface unit with two methods, one with parameters; the `#guard` runs the model on it (a test, not a proof)

def demoIface : IfaceUnit :=
  { pkg := "p", imports := ["q.T"], annos := [], name := "Repo", exts := ["Base"],
    methods := [
      { name := "find", ret := "T", annos := [], params := [("long", "id")], l1 := 5, c1 := 4, l2 := 5, c2 := 20, pre := [],
        tail := [.formalParam "id" "long"] },
      { name := "all", ret := "List<T>", annos := [], params := [], l1 := 6, c1 := 4, l2 := 6, c2 := 17, pre := [], tail := [] }] }

example : demoIface.ok := by
  unfold IfaceUnit.ok demoIface IMethod.ok; decide +kernel

#guard ((runFile {} [] [] "Repo.java" demoIface.events).classNodes.map fun d => (d.node, d.type, d.fns.map (·.name))) == [("Repo", "Interface", ["find", "all"])]

end CocaVerif.Props.C01Iface
