/-
  C09 — every pass completes without crashing on any valid Java source (static part; the rest is searched).

  A runtime panic is a property of the Go program; proved here is the class of crashes that the grammar alone decides.
  Regenerated from the Go source on every run, each with the tests that dominate the use: the places in the eight
  listener / converter files (all found: `no_listener_file_missing`) where the result of a child accessor is
  dereferenced (`Gen.NavSites.sites`), and the navigation chains (`pathSites`) — every dereference, type assertion and
  GetChild(i) on a context value that the extractor can follow from a context of known rule through GetParent() /
  GetChild(i) / accessors / assertions / variables / helper calls.  The grammar is regenerated from JavaParser.g4.
  Not decided statically (counted in `Gen.NavSites.unanalysed` / `pathUnanalysed`, covered by the grammar-wide search
  on the real code): GetChild with a variable index outside inlined helpers, values that are assigned in loops or
  branches, constant indexes and slice expressions on texts and lists, function literals, helper arguments the walk
  cannot follow.
-/
import CocaVerif.Model.Nav

namespace CocaVerif.Props.C09
open CocaVerif CocaVerif.Nav

/-- a mandatory child is never nil -/
theorem accessor_present (g : String → Rx) (n : Node) (x : String) (hc : Conforms g n) (h : (g n.rule).always x = true) :
    (accessor n x).isSome = true := by
  simpa [accessor] using Rx.always_sound x hc h

/-- the same for a child that is in every children word that has the children `given` (those the code has tested non-nil) -/
theorem accessor_present_given (g : String → Rx) (n : Node) (x : String) (given : List String) (hc : Conforms g n)
    (hok : (Rx.pv (x :: given) (g n.rule)).2 = true)
    (hall : (Rx.pv (x :: given) (g n.rule)).1.all (fun p => !(given.all fun y => p.contains y) || p.contains x) = true)
    (hgiven : ∀ y ∈ given, y ∈ n.kids) : (accessor n x).isSome = true := by
  simpa [accessor] using Rx.pv_given_sound hc hok hall hgiven

/-! `siteSafe` and `pathSafe` with the site taken apart by pattern matching.  The kernel remembers what it has evaluated
    term by term; as projections of the site's record, equal rules and equal chains at different sites (more than half of
    the chains occur more than once) are different terms and are evaluated again.  After the match they are the same
    literals. -/

def siteSafe' (g : String → Rx) : Gen.NavSites.Site → Bool
  | ⟨_, _, rule, sym, guarded, given⟩ => guarded ||
    ((Rx.pv (sym :: given) (g rule)).2 &&
      (Rx.pv (sym :: given) (g rule)).1.all fun p => !(given.all fun y => p.contains y) || p.contains sym)

def pathSafe' (g : String → Rx) (names : List String) : Gen.NavSites.PathSite → Bool
  | ⟨_, _, rule, steps⟩ => NavTree.runA g names startRule { syms := [rule], mayNil := false } steps

theorem unsafeSites_eq (g : String → Rx) (l : List Gen.NavSites.Site) : unsafeSites g l = l.filter fun s => !siteSafe' g s :=
  List.filter_congr fun s _ => by cases s; rfl

theorem unsafePaths_eq (g : String → Rx) (names : List String) (l : List Gen.NavSites.PathSite) :
    unsafePaths g names l = l.filter fun s => !pathSafe' g names s :=
  List.filter_congr fun s _ => by cases s; rfl

/-- Both tables in one kernel evaluation: the two sweeps look up the same rules in the generated `match` on rule names
    and compare the same symbol literals, and the kernel shares that work only within one declaration. -/
theorem tables_safe : unsafeSites Gen.JavaGrammar.rhs Gen.NavSites.sites = [] ∧
    unsafePaths Gen.JavaGrammar.rhs Gen.JavaGrammar.ruleNames Gen.NavSites.pathSites = [] := by
  rw [unsafeSites_eq, unsafePaths_eq]; decide +kernel

/-- every accessor dereference of the listeners is nil-guarded in the code, or in the shipped grammar the child is
    present whenever the children the code has already tested are -/
theorem all_accessor_sites_safe : unsafeSites Gen.JavaGrammar.rhs Gen.NavSites.sites = [] := tables_safe.1

theorem no_listener_file_missing : Gen.NavSites.missingFiles = [] := rfl

/-- at a site without its own nil test, on every node of that rule from an error-free parse on which the tested
    children are present, the accessor returns a child -/
theorem site_never_nil (s : Gen.NavSites.Site) (hs : s ∈ Gen.NavSites.sites) (hg : s.guarded = false)
    (n : Node) (hr : n.rule = s.rule) (hc : Conforms Gen.JavaGrammar.rhs n) (hgiven : ∀ y ∈ s.given, y ∈ n.kids) :
    (accessor n s.sym).isSome = true := by
  have h0 : siteSafe Gen.JavaGrammar.rhs s = true := by
    simpa using List.filter_eq_nil_iff.mp all_accessor_sites_safe s hs
  simp only [siteSafe, hg, Bool.false_or, Bool.and_eq_true, ← hr] at h0
  exact accessor_present_given _ n s.sym s.given hc h0.1 h0.2 hgiven

/-- every navigation chain the extractor follows is safe under the abstract run over the shipped grammar -/
theorem all_path_sites_safe :
    unsafePaths Gen.JavaGrammar.rhs Gen.JavaGrammar.ruleNames Gen.NavSites.pathSites = [] := tables_safe.2

/-- on every well-formed parse tree of the shipped grammar and at every node of the chain's rule in it, executing the
    chain does not panic: no nil dereference, no failed type assertion, no `GetChild(i)` with i the number of children.
    (`skip`: a test in the code did not hold and the chain is not executed.) -/
theorem path_site_never_panics (s : Gen.NavSites.PathSite) (hs : s ∈ Gen.NavSites.pathSites)
    (root : NavTree.PT) (hwf : NavTree.WF Gen.JavaGrammar.rhs Gen.JavaGrammar.ruleNames root) (hroot : root.sym = startRule)
    (p : List Nat) (n : NavTree.PT) (hn : NavTree.sub root p = some n) (hr : n.sym = s.rule) :
    NavTree.runC root (some p) s.steps ≠ .panic := by
  have h0 : pathSafe Gen.JavaGrammar.rhs Gen.JavaGrammar.ruleNames s = true := by
    simpa using List.filter_eq_nil_iff.mp all_path_sites_safe s hs
  exact NavTree.run_sound _ _ startRule root hwf hroot s.steps (some p) { syms := [s.rule], mayNil := false }
    (NavTree.Rel.fresh hn (by simp [hr]) trivial) h0

/-- non-vacuity: the chain walk is not empty -/
example : 200 ≤ Gen.NavSites.pathSites.length := by decide +kernel

/-- `statement.GetChild(1)` is NOT safe on an arbitrary statement (`statement: block` has one child, index 1 is out of
    range), it is after a child-count test -/
example : NavTree.runA Gen.JavaGrammar.rhs Gen.JavaGrammar.ruleNames startRule { syms := ["statement"], mayNil := false } [.child 1] = false := by
  decide +kernel
example : NavTree.runA Gen.JavaGrammar.rhs Gen.JavaGrammar.ruleNames startRule { syms := ["statement"], mayNil := false } [.guardCount 3, .child 1, .deref] = true := by
  decide +kernel
/-- an unchecked assertion on a blockStatement's first child is not safe; after the reflect test it is -/
example : NavTree.runA Gen.JavaGrammar.rhs Gen.JavaGrammar.ruleNames startRule { syms := ["blockStatement"], mayNil := false } [.child 0, .assertSym ["statement"]] = false := by
  decide +kernel
example : NavTree.runA Gen.JavaGrammar.rhs Gen.JavaGrammar.ruleNames startRule { syms := ["blockStatement"], mayNil := false }
    [.child 0, .guardSym ["statement"], .assertSym ["statement"], .deref] = true := by
  decide +kernel

end CocaVerif.Props.C09
