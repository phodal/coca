/-
  The segment language of C17: a text is given as a list of segments (`Seg`: code, string and character literals, the three
  comment forms, a template), `render` is its characters and `toks` the tokens a lexer must find in it.  `WF` holds the side
  conditions under which the segments ARE the lexical structure: a body cannot end its segment early (`segOK`; the `*Plain`
  predicates are the characters that neither close nor escape inside the literal) and a line comment is followed by a line end
  (`followOK`).  `lexFrom_render`: on `render segs` the model's lexer yields `toks`; `stepAt_seg` is one segment of it.
-/
import CocaVerif.Model.Todo

namespace CocaVerif.Todo

/-- a character that cannot start a comment or a literal -/
def inert (c : Char) : Bool := c != '/' && c != '#' && c != '"' && c != '\'' && c != '`'

def strPlain (c : Char) : Bool := c != '"' && c != '\\' && c != '\r' && c != '\n'

inductive SItem where
  | plain (c : Char)
  | esc (c : Char)
  deriving Repr

/-- the one-character escapes of the grammar's EscapeSequence -/
def simpleEsc (c : Char) : Bool := "btnfr\"'\\".toList.contains c

def SItem.text : SItem → List Char
  | .plain c => [c]
  | .esc c => ['\\', c]

def SItem.ok : SItem → Bool
  | .plain c => strPlain c
  | .esc c => simpleEsc c

def itemsText : List SItem → List Char
  | [] => []
  | i :: r => i.text ++ itemsText r

def chrPlain (c : Char) : Bool := c != '\\' && c != '\'' && c != '\r' && c != '\n'

def tmplPlain (c : Char) : Bool := c != '`' && c != '\\'

inductive Seg where
  | code (cs : List Char)      -- anything that cannot start a comment or literal (may contain newlines)
  | str (body : List Char)     -- "body"
  | block (body : List Char)   -- /*body*/
  | line (txt : List Char)     -- //txt
  | hash (txt : List Char)     -- #txt
  | estr (items : List SItem)  -- "…" with escapes (\" \\ \n …)
  | chr (c : Char)             -- 'c'
  | echr (c : Char)            -- '\c'
  | tmpl (body : List Char)    -- `body`
  deriving Repr

def Seg.text : Seg → List Char
  | .code cs => cs
  | .str b => '"' :: (b ++ ['"'])
  | .block b => '/' :: '*' :: (b ++ ['*', '/'])
  | .line t => '/' :: '/' :: t
  | .hash t => '#' :: t
  | .estr items => '"' :: (itemsText items ++ ['"'])
  | .chr c => ['\'', c, '\'']
  | .echr c => ['\'', '\\', c, '\'']
  | .tmpl b => '`' :: (b ++ ['`'])

def render : List Seg → List Char
  | [] => []
  | s :: r => s.text ++ render r

def segOK : Seg → Bool
  | .code cs => cs.all inert
  | .str b => b.all strPlain
  | .block b => (findClose b).isNone
  | .line t => t.all fun c => !lineEnd c
  | .hash t => t.all fun c => !hashEnd c
  | .estr items => items.all SItem.ok
  | .chr c => chrPlain c
  | .echr c => simpleEsc c
  | .tmpl b => b.all tmplPlain

/-- a line/hash comment runs to the end of its line: what follows is a line end or nothing -/
def followOK : Seg → List Char → Bool
  | .line _, c :: _ => lineEnd c
  | .hash _, c :: _ => hashEnd c
  | _, _ => true

def WF : List Seg → Bool
  | [] => true
  | s :: r => segOK s && followOK s (render r) && WF r

def Seg.kind? : Seg → Option Kind
  | .code _ => none
  | .str _ => some .str
  | .block _ => some .block
  | .line _ => some .line
  | .hash _ => some .hash
  | .estr _ => some .str
  | .chr _ => some .chr
  | .echr _ => some .chr
  | .tmpl _ => some .tmpl

/-- the tokens a correct lexer must produce: one per literal/comment segment, with its text and start line -/
def toks : Nat → List Seg → List Tok
  | _, [] => []
  | l, s :: r =>
    match s.kind? with
    | some k => { kind := k, text := s.text, line := l } :: toks (l + countNl s.text) r
    | none => toks (l + countNl s.text) r

theorem stepAt_slashStar (r : List Char) :
    stepAt ('/' :: '*' :: r) = match findClose r with | some n => .tok .block (n + 4) | none => .skip 1 := rfl

theorem stepAt_slashSlash (r : List Char) :
    stepAt ('/' :: '/' :: r) = .tok .line (2 + (r.takeWhile fun c => !lineEnd c).length) := rfl

theorem stepAt_hashOpen (r : List Char) :
    stepAt ('#' :: r) = .tok .hash (1 + (r.takeWhile fun c => !hashEnd c).length) := rfl

theorem stepAt_quote (r : List Char) :
    stepAt ('"' :: r) = if (strScan (r.length + 1) r).1 then .tok .str ((strScan (r.length + 1) r).2 + 1)
                        else .skip ((strScan (r.length + 1) r).2 + 1) := rfl

theorem stepAt_apos (r : List Char) :
    stepAt ('\'' :: r) = if (chrScan ('\'' :: r)).1 then .tok .chr (chrScan ('\'' :: r)).2
                         else .skip (chrScan ('\'' :: r)).2 := rfl

theorem stepAt_backquote (r : List Char) :
    stepAt ('`' :: r) = match tmplBody r with | some n => .tok .tmpl (n + 1) | none => .skip (r.length + 1) := rfl

theorem stepAt_inert (c : Char) (rest : List Char) (h : inert c = true) : stepAt (c :: rest) = .skip 1 := by
  simp only [inert, Bool.and_eq_true, bne_iff_ne] at h
  simp [stepAt, h]

theorem findClose_append (rest body : List Char) (h : findClose body = none) :
    findClose (body ++ '*' :: '/' :: rest) = some body.length := by
  fun_induction findClose body with
  | case1 => rfl
  | case2 a => simp [findClose]
  | case3 a b r hc => cases h  -- `body` begins with `*/`
  | case4 a b r hc ih =>
    rw [List.cons_append, List.cons_append, findClose, if_neg hc, ← List.cons_append, ih (Option.map_eq_none_iff.mp h)]
    rfl

theorem takeWhile_append_of_head {e : Char → Bool} {txt : List Char} (rest : List Char) (h : (txt.all fun c => !e c) = true)
    (hr : rest.head?.all e = true) : ((txt ++ rest).takeWhile fun c => !e c).length = txt.length := by
  rw [List.takeWhile_append_of_pos (List.all_eq_true.mp h)]
  cases rest with
  | nil => simp
  | cons c r => simp [show e c = true from hr]

theorem escapeScan_simple (c : Char) (rest : List Char) (h : simpleEsc c = true) :
    escapeScan ('\\' :: c :: rest) = .inl 2 := by
  unfold simpleEsc at h
  simp only [escapeScan, h, ↓reduceIte]

theorem strScan_items (rest : List Char) (items : List SItem) : ∀ (fuel : Nat), (∀ i ∈ items, i.ok = true) →
    fuel > (itemsText items).length → strScan fuel (itemsText items ++ '"' :: rest) = (true, (itemsText items).length + 1) := by
  induction items with
  | nil => intro fuel _ hf; cases fuel with | zero => cases hf | succ f => rfl
  | cons i is ih =>
    intro fuel h hf
    cases fuel with
    | zero => cases hf
    | succ f =>
      have hi := h i List.mem_cons_self
      have ih := ih f fun x hx => h x (List.mem_cons_of_mem _ hx)
      cases i with
      | plain c =>
        simp only [SItem.ok, strPlain, Bool.and_eq_true, bne_iff_ne] at hi
        simp [itemsText, SItem.text, strScan, hi, ih (Nat.lt_of_succ_lt_succ hf)]
      | esc c =>
        simp [itemsText, SItem.text, strScan, escapeScan_simple c _ hi, ih (Nat.lt_of_succ_lt (Nat.lt_of_succ_lt_succ hf))]

theorem tmplScan_plain (rest : List Char) (body : List Char) : ∀ (pos : Nat) (cand : Option Nat),
    (∀ c ∈ body, tmplPlain c = true) → tmplScan false pos cand (body ++ '`' :: rest) = some (pos + body.length + 1) := by
  induction body with
  | nil => intros; rfl
  | cons c cs ih =>
    intro pos cand h
    have hc := h c List.mem_cons_self
    simp only [tmplPlain, Bool.and_eq_true, bne_iff_ne] at hc
    simp only [List.cons_append, tmplScan, beq_iff_eq, hc, beq_false_of_ne hc.2, ↓reduceIte]
    rw [ih (pos + 1) cand fun x hx => h x (List.mem_cons_of_mem _ hx), List.length_cons, Nat.add_right_comm pos,
      ← Nat.add_assoc]

theorem itemsText_plain (b : List Char) : itemsText (b.map .plain) = b := by
  induction b with
  | nil => rfl
  | cons c b ih => simp [itemsText, SItem.text, ih]

theorem stepAt_estr (items : List SItem) (rest : List Char) (h : items.all SItem.ok = true) :
    stepAt ((Seg.estr items).text ++ rest) = .tok .str (Seg.estr items).text.length := by
  rw [Seg.text, List.cons_append, List.append_assoc, List.singleton_append, stepAt_quote,
    strScan_items rest items _ (List.all_eq_true.mp h) (by simp; omega)]
  simp

theorem stepAt_seg (s : Seg) (rest : List Char) (k : Kind) (hk : s.kind? = some k) (hs : segOK s = true)
    (hf : followOK s rest = true) : stepAt (s.text ++ rest) = .tok k s.text.length := by
  cases s with
  | code cs => cases hk
  | estr items => cases hk; exact stepAt_estr items rest hs
  | str b =>
    cases hk
    have := stepAt_estr (b.map .plain) rest (List.all_map.trans hs)
    rwa [Seg.text, itemsText_plain] at this
  | block b =>
    cases hk
    simp [Seg.text, stepAt_slashStar, findClose_append rest b (Option.isNone_iff_eq_none.mp hs)]
  | line t =>
    cases hk
    rw [Seg.text, List.cons_append, List.cons_append, stepAt_slashSlash, takeWhile_append_of_head rest hs (by cases rest <;> exact hf),
      List.length_cons, List.length_cons, Nat.add_comm]
  | hash t =>
    cases hk
    rw [Seg.text, List.cons_append, stepAt_hashOpen, takeWhile_append_of_head rest hs (by cases rest <;> exact hf),
      List.length_cons, Nat.add_comm]
  | chr c =>
    cases hk
    simp only [segOK, chrPlain, Bool.and_eq_true, bne_iff_ne] at hs
    simp [Seg.text, stepAt_apos, chrScan, hs]
  | echr c => cases hk; simp [Seg.text, stepAt_apos, chrScan, escapeScan_simple c _ hs]
  | tmpl b =>
    cases hk
    simp [Seg.text, stepAt_backquote, tmplBody, tmplScan_plain rest b 0 none (List.all_eq_true.mp hs)]

theorem countNl_cons (c : Char) (cs : List Char) : countNl (c :: cs) = countNl [c] + countNl cs := by
  simp only [countNl, ← List.length_append, ← List.filter_append, List.singleton_append]

theorem lexFrom_inert (rest cs : List Char) : ∀ (fuel line : Nat), (∀ c ∈ cs, inert c = true) →
    lexFrom fuel line (cs ++ rest) = lexFrom (fuel - cs.length) (line + countNl cs) rest := by
  induction cs with
  | nil => intros; rfl
  | cons c cs ih =>
    intro fuel line h
    cases fuel with
    | zero => rw [Nat.zero_sub]; rfl
    | succ f =>
      rw [List.cons_append, lexFrom, stepAt_inert c _ (h c List.mem_cons_self)]
      show lexFrom f (line + countNl [c]) (cs ++ rest) = _
      rw [ih f _ fun x hx => h x (List.mem_cons_of_mem _ hx), List.length_cons, Nat.add_sub_add_right, countNl_cons c cs,
        Nat.add_assoc]

theorem lexFrom_tok (k : Kind) (t rest : List Char) (fuel line : Nat) (hpos : 0 < t.length)
    (hstep : stepAt (t ++ rest) = .tok k t.length) :
    lexFrom (fuel + 1) line (t ++ rest) = { kind := k, text := t, line := line } :: lexFrom fuel (line + countNl t) rest := by
  cases t with
  | nil => cases hpos
  | cons c t' =>
    simp only [List.cons_append] at hstep ⊢
    simp only [lexFrom, hstep]
    rw [← List.cons_append, List.take_left, List.drop_left]

theorem Seg.text_pos {s : Seg} {k : Kind} (hk : s.kind? = some k) : 0 < s.text.length := by
  cases s with
  | code _ => cases hk
  | _ => exact Nat.succ_pos _

theorem lexFrom_render (segs : List Seg) : ∀ (fuel line : Nat), WF segs = true → fuel > (render segs).length →
    lexFrom fuel line (render segs) = toks line segs := by
  induction segs with
  | nil => intro fuel _ _ _; cases fuel <;> rfl
  | cons s r ih =>
    intro fuel line hwf hf
    simp only [WF, Bool.and_eq_true] at hwf
    obtain ⟨⟨hs, hfo⟩, hr⟩ := hwf
    rw [render, List.length_append] at hf
    rw [render, toks]
    cases hk : s.kind? with
    | none =>
      cases s <;> cases hk
      rw [Seg.text] at hf ⊢
      rw [lexFrom_inert _ _ fuel line (List.all_eq_true.mp hs)]
      exact ih _ _ hr (Nat.lt_sub_iff_add_lt'.mpr hf)
    | some k =>
      have hpos := Seg.text_pos hk
      cases fuel with
      | zero => cases hf
      | succ f => rw [lexFrom_tok k _ _ f line hpos (stepAt_seg s _ k hk hs hfo), ih _ _ hr (by omega)]

end CocaVerif.Todo
