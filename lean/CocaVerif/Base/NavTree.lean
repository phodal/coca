/-
  Parse trees, the navigation the listeners do on them (child accessor, GetChild(i), GetParent(), type assertion,
  dereference), and an abstract interpretation of that navigation over a grammar, sound for every node of the
  starting rule in every well-formed tree (C09).
-/
import CocaVerif.Base.Rx

namespace CocaVerif.NavTree
open CocaVerif Rx

def occurs (x : String) : Rx → Bool
  | .eps => false
  | .sym s => s == x
  | .seq a b => occurs x a || occurs x b
  | .alt a b => occurs x a || occurs x b
  | .star a => occurs x a

theorem occurs_sound (x : String) {r : Rx} {w : List String} (hm : Matches r w) : x ∈ w → occurs x r = true := by
  induction hm <;> simp_all [occurs, or_imp]

def nullable : Rx → Bool
  | .eps => true
  | .sym _ => false
  | .seq a b => nullable a && nullable b
  | .alt a b => nullable a || nullable b
  | .star _ => true

theorem nullable_sound {r : Rx} {w : List String} (hm : Matches r w) : w = [] → nullable r = true := by
  induction hm <;> simp_all [nullable]

/-- the possible first symbols -/
def heads : Rx → List String
  | .eps => []
  | .sym s => [s]
  | .seq a b => heads a ++ (if nullable a then heads b else [])
  | .alt a b => heads a ++ heads b
  | .star a => heads a

/-- what can follow a first symbol: alternatives, each a sequence of expressions (so that `Rx` needs no `empty` constructor) -/
def tails : Rx → List (List Rx)
  | .eps => []
  | .sym _ => [[]]
  | .seq a b => (tails a).map (fun t => t ++ [b]) ++ (if nullable a then tails b else [])
  | .alt a b => tails a ++ tails b
  | .star a => (tails a).map fun t => t ++ [.star a]

inductive MatchesSeq : List Rx → List String → Prop
  | nil : MatchesSeq [] []
  | cons {r : Rx} {rs : List Rx} {u v : List String} : Matches r u → MatchesSeq rs v → MatchesSeq (r :: rs) (u ++ v)

theorem matchesSeq_snoc {rs : List Rx} {w : List String} (h : MatchesSeq rs w) {b : Rx} {v : List String} (hb : Matches b v) :
    MatchesSeq (rs ++ [b]) (w ++ v) := by
  induction h with
  | nil => simpa using MatchesSeq.cons hb MatchesSeq.nil
  | cons hr _ ih => rw [List.append_assoc]; exact MatchesSeq.cons hr ih

/-- `tails` of the words that START WITH `s` only -/
def tailsOf (s : String) : Rx → List (List Rx)
  | .eps => []
  | .sym x => if x == s then [[]] else []
  | .seq a b => (tailsOf s a).map (fun t => t ++ [b]) ++ (if nullable a then tailsOf s b else [])
  | .alt a b => tailsOf s a ++ tailsOf s b
  | .star a => (tailsOf s a).map fun t => t ++ [.star a]

theorem heads_tailsOf_sound {r : Rx} {w : List String} (hm : Matches r w) :
    ∀ s t, w = s :: t → s ∈ heads r ∧ ∃ ts ∈ tailsOf s r, MatchesSeq ts t := by
  induction hm with
  | eps | starNil => intro s t h; cases h
  | sym x => intro s t h; cases h; exact ⟨by simp [heads], [], by simp [tailsOf], .nil⟩
  | @seq a b u v hu hv iha ihb =>
    intro s t h
    cases u with
    | nil =>
      have hn := nullable_sound hu rfl
      obtain ⟨hh, ts, hts, hm'⟩ := ihb s t h
      exact ⟨by simp [heads, hn, hh], ts, by simp [tailsOf, hn, hts], hm'⟩
    | cons x u' =>
      obtain ⟨rfl, rfl⟩ := List.cons.inj h
      obtain ⟨hh, ts, hts, hm'⟩ := iha x u' rfl
      exact ⟨by simp [heads, hh], ts ++ [b], by simp [tailsOf, hts], matchesSeq_snoc hm' hv⟩
  | altL _ ih | altR _ ih =>
    intro s t h
    obtain ⟨hh, ts, hts, hm'⟩ := ih s t h
    exact ⟨by simp [heads, hh], ts, by simp [tailsOf, hts], hm'⟩
  | @starCons a u v _ hv iha ihs =>
    intro s t h
    cases u with
    | nil => exact ihs s t h
    | cons x u' =>
      obtain ⟨rfl, rfl⟩ := List.cons.inj h
      obtain ⟨hh, ts, hts, hm'⟩ := iha x u' rfl
      exact ⟨by simpa [heads] using hh, ts ++ [.star a], by simp [tailsOf, hts], matchesSeq_snoc hm' hv⟩

theorem tailsOf_sound (s : String) {r : Rx} {w : List String} (hm : Matches r w) :
    ∀ t, w = s :: t → ∃ ts ∈ tailsOf s r, MatchesSeq ts t :=
  fun t h => (heads_tailsOf_sound hm s t h).2

theorem tailsOf_subset (s : String) (r : Rx) : ∀ ts ∈ tailsOf s r, ts ∈ tails r := by
  induction r with
  | eps => simp [tailsOf]
  | sym x => simp only [tailsOf, tails]; split <;> simp
  | seq a b iha ihb =>
    simp only [tailsOf, tails, List.mem_append, List.mem_map]
    rintro ts (⟨t, ht, rfl⟩ | h)
    · exact Or.inl ⟨t, iha t ht, rfl⟩
    · right; split <;> simp_all
  | alt a b iha ihb =>
    simp only [tailsOf, tails, List.mem_append]
    exact fun ts h => h.imp (iha ts) (ihb ts)
  | star a ih =>
    simp only [tailsOf, tails, List.mem_map]
    rintro ts ⟨t, ht, rfl⟩
    exact ⟨t, ih t ht, rfl⟩

def seqOf : List Rx → Rx
  | [] => .eps
  | r :: rs => .seq r (seqOf rs)

theorem seqOf_sound {rs : List Rx} {w : List String} (h : MatchesSeq rs w) : Matches (seqOf rs) w := by
  induction h with
  | nil => exact Matches.eps
  | cons hr _ ih => exact Matches.seq hr ih

/-- the possible symbols at position `i`, and whether some word is too short to have one -/
def symsAt : Nat → Rx → List String × Bool
  | 0, r => (heads r, nullable r)
  | i + 1, r =>
    let parts := (tails r).map fun ts => symsAt i (seqOf ts)
    (parts.flatMap (·.1), nullable r || parts.any (·.2))

theorem symsAt_sound : ∀ (i : Nat) {r : Rx} {w : List String}, Matches r w →
    (∀ s, w[i]? = some s → s ∈ (symsAt i r).1) ∧ (w[i]? = none → (symsAt i r).2 = true) := by
  intro i
  induction i with
  | zero =>
    intro r w hm
    cases w with
    | nil => exact ⟨fun s h => (nomatch h), fun _ => nullable_sound hm rfl⟩
    | cons a t => exact ⟨fun s h => Option.some.inj h ▸ (heads_tailsOf_sound hm a t rfl).1, fun h => nomatch h⟩
  | succ i ih =>
    intro r w hm
    cases w with
    | nil => exact ⟨fun s h => (nomatch h), fun _ => by simp only [symsAt, nullable_sound hm rfl, Bool.true_or]⟩
    | cons a t =>
      obtain ⟨ts, hts, hm'⟩ := tailsOf_sound a hm t rfl
      have hts := tailsOf_subset a r ts hts
      have := ih (seqOf_sound hm')
      simp only [List.getElem?_cons_succ, symsAt, List.mem_flatMap, List.mem_map, Bool.or_eq_true, List.any_eq_true]
      exact ⟨fun s hs => ⟨_, ⟨ts, hts, rfl⟩, this.1 s hs⟩, fun hn => Or.inr ⟨_, ⟨ts, hts, rfl⟩, this.2 hn⟩⟩

inductive PT where
  | node (rule : String) (kids : List PT)
  | tok (name : String)

def PT.sym : PT → String
  | .node r _ => r
  | .tok n => n

def PT.kids : PT → List PT
  | .node _ ks => ks
  | .tok _ => []

/-- a tree an error-free parse with grammar `g` (rules `names`) can produce -/
inductive WF (g : String → Rx) (names : List String) : PT → Prop
  | tok (n : String) : ¬ n ∈ names → WF g names (.tok n)
  | node (r : String) (ks : List PT) : r ∈ names → Matches (g r) (ks.map PT.sym) → (∀ k, k ∈ ks → WF g names k) → WF g names (.node r ks)

def sub : PT → List Nat → Option PT
  | t, [] => some t
  | t, i :: p => match t.kids[i]? with
    | some k => sub k p
    | none => none

theorem sub_append (t : PT) (p q : List Nat) : sub t (p ++ q) = (sub t p).bind fun n => sub n q := by
  induction p generalizing t with
  | nil => simp [sub]
  | cons i p ih =>
    simp only [List.cons_append, sub]
    cases t.kids[i]? with
    | none => simp
    | some k => exact ih k

theorem wf_sub {g : String → Rx} {names : List String} : ∀ (p : List Nat) (t n : PT), WF g names t → sub t p = some n → WF g names n := by
  intro p
  induction p with
  | nil => intro t n h hs; simp [sub] at hs; subst hs; exact h
  | cons i p ih =>
    intro t n h hs
    simp only [sub] at hs
    cases hk : t.kids[i]? with
    | none => rw [hk] at hs; cases hs
    | some k =>
      rw [hk] at hs
      have hmem : k ∈ t.kids := List.mem_of_getElem? hk
      cases h with
      | tok _ _ => simp [PT.kids] at hmem
      | node r ks _ _ hall => exact ih k n (hall k hmem) hs

/-- what a listener does with a context value: the value is a location in the tree or nil.  A guard only records what the code
    has tested: the method call inside the test (`v.Y()`, `v.GetChildCount()`, `reflect.TypeOf(v).String()`) is a `deref` site of
    its own in the extractor's output (paths.go emits one for every method call on a followed value), so a guard on nil skips. -/
inductive Step where
  | parent                       -- v.GetParent()
  | child (i : Nat)              -- v.GetChild(i)
  | acc (x : String)             -- v.X() / v.X(0): first child with that symbol
  | assertSym (ts : List String) -- v.(*T): the dynamic type must be one of these
  | deref                        -- v.GetText(), v.GetStart(), …: any method call on the value
  | guardNonNil                  -- the code only continues when v != nil
  | guardSym (ts : List String)  -- … when v is one of these (reflect.TypeOf test, type switch case, `x, ok := v.(*T)`)
  | guardHas (ys : List String)  -- … when v.Y() != nil for these Y
  | guardCount (k : Nat)         -- … when v has at least k children
  deriving Repr

inductive Outcome where
  | ok (v : Option (List Nat))
  | panic
  | skip                         -- a guard did not hold: the guarded code is not executed
  deriving Repr

/-- `GetChild(i)` is the ANTLR Go runtime's: `if children != nil && len(children) >= i { return children[i] }; return nil`
    — an index EQUAL to the number of children is an index-out-of-range panic, a larger one gives nil.
    A path that leads nowhere (`sub root p = none`) does not occur under `Rel`; the answers given for it are arbitrary. -/
def stepC (root : PT) (v : Option (List Nat)) : Step → Outcome
  | .deref => match v with | none => .panic | some p => .ok (some p)
  | .parent => match v with
    | none => .panic
    | some [] => .ok none
    | some p => .ok (some p.dropLast)
  | .child i => match v with
    | none => .panic
    | some p => match sub root p with
      | some n =>
        if i < n.kids.length then .ok (some (p ++ [i]))
        else if i = n.kids.length ∧ n.kids.length ≠ 0 then .panic
        else .ok none
      | none => .panic
  | .acc x => match v with
    | none => .panic
    | some p => match sub root p with
      | some n => match n.kids.findIdx? (fun k => k.sym == x) with
        | some i => .ok (some (p ++ [i]))
        | none => .ok none
      | none => .panic
  | .assertSym ts => match v with
    | none => .panic
    | some p => match sub root p with
      | some n => if ts.contains n.sym then .ok (some p) else .panic
      | none => .panic
  | .guardNonNil => match v with
    | none => .skip
    | some p => .ok (some p)
  | .guardSym ts => match v with
    | none => .skip
    | some p => match sub root p with
      | some n => if ts.contains n.sym then .ok (some p) else .skip
      | none => .skip
  | .guardHas ys => match v with
    | none => .skip
    | some p => match sub root p with
      | some n => if ys.all (fun y => (n.kids.map PT.sym).contains y) then .ok (some p) else .skip
      | none => .skip
  | .guardCount k => match v with
    | none => .skip
    | some p => match sub root p with
      | some n => if k ≤ n.kids.length then .ok (some p) else .skip
      | none => .skip

def runC (root : PT) : Option (List Nat) → List Step → Outcome
  | v, [] => .ok v
  | v, s :: ss => match stepC root v s with
    | .ok v' => runC root v' ss
    | .panic => .panic
    | .skip => .skip

/-- the symbols the node may have, whether the value may be nil, the symbols the ancestors it was reached through may
    have (nearest first), children known to be present, a lower bound on the number of children -/
structure AV where
  syms : List String
  mayNil : Bool
  up : List (List String) := []
  has : List String := []
  minKids : Nat := 0
  deriving Repr

def parentsOf (g : String → Rx) (names : List String) (s : String) : List String := names.filter fun q => occurs s (g q)

/-- `x` is in every children word of rule `s` that has the symbols `given` -/
def sure (g : String → Rx) (given : List String) (x s : String) : Bool :=
  always x (g s) ||
    ((pv (x :: given) (g s)).2 && (pv (x :: given) (g s)).1.all fun p => !(given.all fun y => p.contains y) || p.contains x)

/-- `GetChild(i)` cannot hit the out-of-range case (i = number of children ≠ 0): a token has no children, 0 is not a
    non-zero count, and otherwise every children word of the rule reaches position `i` or the code has tested for more
    than `i` children -/
def childSafe (g : String → Rx) (names : List String) (a : AV) (i : Nat) : Bool :=
  a.syms.all fun s => !names.contains s || i == 0 || !(symsAt i (g s)).2 || decide (i < a.minKids)

def childSyms (g : String → Rx) (names : List String) (a : AV) (i : Nat) : List String :=
  a.syms.flatMap fun s => if names.contains s then (symsAt i (g s)).1 else []

def childMayNil (g : String → Rx) (names : List String) (a : AV) (i : Nat) : Bool :=
  a.syms.any fun s => !names.contains s || ((symsAt i (g s)).2 && !decide (i < a.minKids))

/-- `none`: cannot be shown safe.  Without a recorded ancestor the parent is any rule whose right-hand side mentions one of the
    symbols, and nil only where the node may be the root of the tree, whose rule is `start`. -/
def stepA (g : String → Rx) (names : List String) (start : String) (a : AV) : Step → Option AV
  | .deref => if a.mayNil then none else some a
  | .parent =>
    if a.mayNil then none
    else match a.up with
      | u :: us => some { syms := u, mayNil := false, up := us }
      | [] => some { syms := a.syms.flatMap (parentsOf g names), mayNil := a.syms.contains start }
  | .child i =>
    if a.mayNil then none
    else if childSafe g names a i then
      some { syms := childSyms g names a i, mayNil := childMayNil g names a i, up := a.syms :: a.up }
    else none
  | .acc x =>
    if a.mayNil then none
    else some { syms := [x], mayNil := !(a.has.contains x || a.syms.all fun s => names.contains s && sure g a.has x s), up := a.syms :: a.up }
  | .assertSym ts => if a.mayNil then none else if a.syms.all (fun s => ts.contains s) then some { a with mayNil := false } else none
  | .guardNonNil => some { a with mayNil := false }
  | .guardSym ts => some { a with syms := ts, mayNil := false }
  | .guardHas ys => some { a with has := ys ++ a.has, mayNil := false }
  | .guardCount k => some { a with syms := if k = 0 then a.syms else a.syms.filter names.contains, minKids := max k a.minKids, mayNil := false }

def runA (g : String → Rx) (names : List String) (start : String) : AV → List Step → Bool
  | _, [] => true
  | a, s :: ss => match stepA g names start a s with
    | some a' => runA g names start a' ss
    | none => false

def UpOK (root : PT) : List Nat → List (List String) → Prop
  | _, [] => True
  | p, u :: us => p ≠ [] ∧ (∃ m, sub root p.dropLast = some m ∧ m.sym ∈ u) ∧ UpOK root p.dropLast us

/-- the concrete value is described by the abstract one -/
def Rel (root : PT) (v : Option (List Nat)) (a : AV) : Prop :=
  match v with
  | none => a.mayNil = true
  | some p => ∃ n, sub root p = some n ∧ n.sym ∈ a.syms ∧ (∀ y ∈ a.has, y ∈ n.kids.map PT.sym) ∧ a.minKids ≤ n.kids.length ∧ UpOK root p a.up

theorem sure_sound (g : String → Rx) (given : List String) (x s : String) (w : List String) (hm : Matches (g s) w)
    (hs : sure g given x s = true) (hgiven : ∀ y ∈ given, y ∈ w) : x ∈ w := by
  simp only [sure, Bool.or_eq_true, Bool.and_eq_true] at hs
  rcases hs with h | ⟨hok, hall⟩
  · exact always_sound x hm h
  · exact pv_given_sound hm hok hall hgiven

theorem WF.rule_or_token {g : String → Rx} {names : List String} {n : PT} (h : WF g names n) :
    (names.contains n.sym = true ∧ Matches (g n.sym) (n.kids.map PT.sym)) ∨ (names.contains n.sym = false ∧ n.kids = []) := by
  cases h with
  | tok m hm => exact Or.inr ⟨by simpa [PT.sym] using hm, rfl⟩
  | node r ks hr hm _ => exact Or.inl ⟨List.contains_iff_mem.mpr hr, hm⟩

theorem sub_snoc {root n : PT} {p : List Nat} {i : Nat} (hsub : sub root p = some n) (hi : i < n.kids.length) :
    sub root (p ++ [i]) = some n.kids[i] := by
  simp [sub_append, hsub, sub, hi]

theorem upOK_push {root n : PT} {p : List Nat} {syms : List String} {up : List (List String)} (i : Nat)
    (hsub : sub root p = some n) (hsym : n.sym ∈ syms) (hup : UpOK root p up) : UpOK root (p ++ [i]) (syms :: up) :=
  ⟨by simp, ⟨n, by simpa using hsub, hsym⟩, by simpa using hup⟩

/-- a node just reached: nothing is known about its children yet (`has = []`, `minKids = 0`) -/
theorem Rel.fresh {root n : PT} {p : List Nat} {syms : List String} {mayNil : Bool} {up : List (List String)}
    (hsub : sub root p = some n) (hsym : n.sym ∈ syms) (hup : UpOK root p up) :
    Rel root (some p) { syms := syms, mayNil := mayNil, up := up } :=
  ⟨n, hsub, hsym, fun _ h => (List.not_mem_nil h).elim, Nat.zero_le _, hup⟩

theorem stepC_parent {root : PT} {p : List Nat} (h : p ≠ []) : stepC root (some p) .parent = .ok (some p.dropLast) := by
  cases p with
  | nil => exact absurd rfl h
  | cons _ _ => rfl

theorem step_sound (g : String → Rx) (names : List String) (start : String) (root : PT) (hwf : WF g names root)
    (hstart : root.sym = start) (v : Option (List Nat)) (a a' : AV) (s : Step) (hr : Rel root v a) (hs : stepA g names start a s = some a') :
    stepC root v s = .skip ∨ ∃ v', stepC root v s = .ok v' ∧ Rel root v' a' := by
  cases v with
  | none =>
    -- nil: a guard skips; `stepA` refuses every other step because `a.mayNil`
    have hm : a.mayNil = true := hr
    cases s <;> first | exact Or.inl rfl | simp [stepA, hm] at hs
  | some p =>
    obtain ⟨n, hsub, hsym, hhas, hmin, hup⟩ := hr
    have hwn := (wf_sub p root n hwf hsub).rule_or_token
    cases s with
    | guardNonNil => cases hs; exact Or.inr ⟨_, rfl, n, hsub, hsym, hhas, hmin, hup⟩
    | guardSym ts =>
      cases hs
      simp only [stepC, hsub]
      split
      · next hc => exact Or.inr ⟨_, rfl, n, hsub, List.contains_iff_mem.mp hc, hhas, hmin, hup⟩
      · exact Or.inl rfl
    | guardHas ys =>
      cases hs
      simp only [stepC, hsub]
      split
      · next hc =>
        refine Or.inr ⟨_, rfl, n, hsub, hsym, fun y hy => ?_, hmin, hup⟩
        exact (List.mem_append.mp hy).elim (fun h => List.contains_iff_mem.mp (List.all_eq_true.mp hc y h)) (hhas y)
      · exact Or.inl rfl
    | guardCount k =>
      cases hs
      simp only [stepC, hsub]
      split
      · next hc =>
        refine Or.inr ⟨_, rfl, n, hsub, ?_, hhas, Nat.max_le.mpr ⟨hc, hmin⟩, hup⟩
        split
        · exact hsym
        · -- only rule nodes have children
          rcases hwn with ⟨hn, _⟩ | ⟨_, hk⟩
          · exact List.mem_filter.mpr ⟨hsym, hn⟩
          · rw [hk] at hc; simp at hc; omega
      · exact Or.inl rfl
    | deref =>
      simp only [stepA] at hs
      split at hs <;> cases hs
      exact Or.inr ⟨_, rfl, n, hsub, hsym, hhas, hmin, hup⟩
    | assertSym ts =>
      simp only [stepA] at hs
      split at hs
      · cases hs
      split at hs <;> cases hs
      next hall =>
      have : ts.contains n.sym = true := List.all_eq_true.mp hall _ hsym
      exact Or.inr ⟨some p, by simp only [stepC, hsub]; rw [if_pos this], n, hsub, hsym, hhas, hmin, hup⟩
    | acc x =>
      simp only [stepA] at hs
      split at hs <;> cases hs
      simp only [stepC, hsub]
      cases hf : n.kids.findIdx? (fun k => k.sym == x) with
      | some i =>
        obtain ⟨hi, hx, _⟩ := List.findIdx?_eq_some_iff_getElem.mp hf
        exact Or.inr ⟨_, rfl, Rel.fresh (sub_snoc hsub hi) (by simpa using hx) (upOK_push i hsub hsym hup)⟩
      | none =>
        -- `x` is not among the children, so neither the nil tests of the code nor the grammar can have promised it
        refine Or.inr ⟨none, rfl, ?_⟩
        have hnot : x ∉ n.kids.map PT.sym := by simpa using List.findIdx?_eq_none_iff.mp hf
        show (!(a.has.contains x || a.syms.all fun s => names.contains s && sure g a.has x s)) = true
        rw [Bool.not_eq_true', Bool.eq_false_iff, Ne, Bool.or_eq_true]
        rintro (hh | hall)
        · exact hnot (hhas x (List.contains_iff_mem.mp hh))
        · have hn := List.all_eq_true.mp hall _ hsym
          rw [Bool.and_eq_true] at hn
          rcases hwn with ⟨_, hmt⟩ | ⟨hc, _⟩
          · exact hnot (sure_sound g a.has x n.sym _ hmt hn.2 hhas)
          · rw [hc] at hn; cases hn.1
    | child i =>
      simp only [stepA] at hs
      split at hs
      · cases hs
      split at hs <;> cases hs
      next hsafe =>
      have hsafe := List.all_eq_true.mp hsafe _ hsym
      simp only [stepC, hsub]
      by_cases hi : i < n.kids.length
      · rw [if_pos hi]
        refine Or.inr ⟨_, rfl, Rel.fresh (sub_snoc hsub hi) ?_ (upOK_push i hsub hsym hup)⟩
        rcases hwn with ⟨hc, hmt⟩ | ⟨_, hk⟩
        · exact List.mem_flatMap.mpr ⟨n.sym, hsym, by rw [if_pos hc]; exact (symsAt_sound i hmt).1 _ (by simp [hi])⟩
        · simp [hk] at hi
      · -- no such child: `GetChild` panics only for i = number of children ≠ 0, which `childSafe` excludes
        rw [if_neg hi]
        rcases hwn with ⟨hc, hmt⟩ | ⟨hc, hk⟩
        · have h2 := (symsAt_sound i hmt).2 (by simp; omega)
          have hmk : ¬ i < a.minKids := by omega  -- `minKids ≤ length ≤ i`
          have hi0 : i = 0 := by rw [hc, h2] at hsafe; simpa [hmk] using hsafe
          rw [if_neg (by omega)]  -- `i = 0`, so `i = length` would make the length 0
          exact Or.inr ⟨none, rfl, List.any_eq_true.mpr ⟨n.sym, hsym, by rw [hc, h2]; simp [hmk]⟩⟩
        · rw [if_neg (by simp [hk])]
          exact Or.inr ⟨none, rfl, List.any_eq_true.mpr ⟨n.sym, hsym, by rw [hc]; rfl⟩⟩
    | parent =>
      simp only [stepA] at hs
      split at hs
      · cases hs
      split at hs <;> cases hs
      · next u us hu =>
        rw [hu] at hup
        obtain ⟨hne, ⟨m, hm1, hm2⟩, hrest⟩ := hup
        exact Or.inr ⟨_, stepC_parent hne, Rel.fresh hm1 hm2 hrest⟩
      · by_cases hne : p = []
        · -- the root: its parent is nil, which the abstract value allows because the root's rule is `start`
          subst hne
          cases hsub
          exact Or.inr ⟨none, rfl, List.contains_iff_mem.mpr (hstart ▸ hsym)⟩
        · -- otherwise the parent is a rule node whose right-hand side mentions `n.sym`
          rw [← List.dropLast_concat_getLast hne, sub_append] at hsub
          obtain ⟨m, hq, hk⟩ := Option.bind_eq_some_iff.mp hsub
          have hmem : n.sym ∈ m.kids.map PT.sym := by
            simp only [sub] at hk
            split at hk <;> cases hk
            next hj => exact List.mem_map_of_mem (List.mem_of_getElem? hj)
          refine Or.inr ⟨_, stepC_parent hne, Rel.fresh hq ?_ trivial⟩
          rcases (wf_sub _ root m hwf hq).rule_or_token with ⟨hc, hmt⟩ | ⟨_, hk0⟩
          · exact List.mem_flatMap.mpr ⟨n.sym, hsym, List.mem_filter.mpr ⟨List.contains_iff_mem.mp hc, occurs_sound _ hmt hmem⟩⟩
          · simp [hk0] at hmem

/-- a safe abstract run means no nil dereference, no failed assertion and no child index out of range on any
    well-formed tree -/
theorem run_sound (g : String → Rx) (names : List String) (start : String) (root : PT) (hwf : WF g names root) (hstart : root.sym = start) :
    ∀ (ss : List Step) (v : Option (List Nat)) (a : AV), Rel root v a → runA g names start a ss = true → runC root v ss ≠ .panic := by
  intro ss
  induction ss with
  | nil => intro v a _ _; simp [runC]
  | cons s ss ih =>
    intro v a hr hs
    simp only [runA] at hs
    split at hs
    · next a' ha =>
      rcases step_sound g names start root hwf hstart v a a' s hr ha with hsk | ⟨v', hv', hr'⟩
      · simp [runC, hsk]
      · simp only [runC, hv']
        exact ih v' a' hr' hs
    · cases hs

end CocaVerif.NavTree
