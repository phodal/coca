/-
  C05 — Method rename rewrites only the renamed identifier tokens (rewrite layer).

  The sites come from the code model: C01 (`FnSpec.pos`) and C02 (`Rec`) prove that a declaration is positioned at its name and
  a call at its callee, [column, column + length).  This file proves what `updateSelfRefs` does to the file when the sites of
  a line are applied from the right to the left.
  Not proved: that `sortSites` hands every line's sites to `applySites` in that order, and `renameFile` as a whole (sort, dedup,
  sites on several lines); no theorem mentions `sortSites`, `insertSite` or `renameFile`.  Of the order there are only the
  comparator `siteLt` on two sites (`sorted_*`) and `dedup_repeated`; the rest is left to the byte-for-byte correspondence with
  the tool (DESIGN.md, C05).
  Characters are runes (the code splices `[]rune(line)`; regenerated fact `spliceByRunes`).
-/
import CocaVerif.Model.Refactor

namespace CocaVerif.Props.C05
open CocaVerif CocaVerif.Refactor

theorem code_facts : Gen.Refactor.renameSortsEdits = true ∧ Gen.Refactor.renameSkipsRepeatedSite = true ∧
    Gen.Refactor.renameComparesLines = true ∧ Gen.Refactor.spliceByRunes = true := ⟨rfl, rfl, rfl, rfl⟩

def Ranges (len : Nat) : Nat → List (Nat × Nat) → Prop
  | _, [] => True
  | p, (s, e) :: rs => p ≤ s ∧ s ≤ e ∧ e ≤ len ∧ Ranges len e rs

/-- the line from position `p` on, with every range replaced by `new` and everything else kept -/
def rebuilt (new line : List Char) : Nat → List (Nat × Nat) → List Char
  | p, [] => line.drop p
  | p, (s, e) :: rs => (line.drop p).take (s - p) ++ new ++ rebuilt new line e rs

def spliceAll (new : List Char) (line : List Char) (rs : List (Nat × Nat)) : Option (List Char) :=
  rs.foldlM (fun l r => splice l r.1 r.2 new) line

/-- the invariant of right-to-left splicing: a line that still begins with the first `e` characters of the original can be
    spliced at `[s, e)` and then begins with the first `s` of them; what follows `e` is not looked at -/
theorem splice_take (line tail new : List Char) (s e : Nat) (hs : s ≤ e) (he : e ≤ line.length) :
    splice (line.take e ++ tail) s e new = some (line.take s ++ new ++ tail) := by
  have hl : (line.take e).length = e := List.length_take_of_le he
  rw [splice, List.length_append, hl, if_pos ⟨Nat.le_trans hs (Nat.le_add_right ..), Nat.le_add_right ..⟩,
    List.take_append_of_le_length (hl.symm ▸ hs), List.take_take, Nat.min_eq_left hs, List.drop_left' hl]

/-- splicing ascending disjoint ranges of one line from the right to the left (`rs.reverse`) yields `rebuilt`: every character
    outside the ranges is unchanged, no position goes stale -/
theorem spliceAll_exact (new line : List Char) : ∀ (rs : List (Nat × Nat)) (p : Nat), Ranges line.length p rs →
    spliceAll new line rs.reverse = some (line.take p ++ rebuilt new line p rs)
  | [], p, _ => by rw [rebuilt, List.take_append_drop]; rfl
  | (s, e) :: rs, p, ⟨h1, h2, h3, h4⟩ => by
    rw [List.reverse_cons, spliceAll, List.foldlM_append, ← spliceAll, spliceAll_exact new line rs e h4]
    show (splice _ s e new).bind _ = _
    rw [splice_take line _ new s e h2 h3, rebuilt, ← List.append_assoc, ← List.append_assoc, ← List.take_add,
      Nat.add_sub_cancel' h1]
    rfl

theorem applySite_line (new : List Char) (ls : List (List Char)) (k s e : Nat) (hk : 1 ≤ k ∧ k ≤ ls.length) :
    applySite new ls ⟨k, s, e⟩ = (splice (ls.getD (k - 1) []) s e new).map (ls.set (k - 1)) := by
  rw [applySite, if_neg (not_or.mpr ⟨Nat.ne_of_gt hk.1, Nat.not_lt.mpr hk.2⟩)]
  cases splice (ls.getD (k - 1) []) s e new <;> rfl

theorem applySite_frame (new : List Char) (lines lines' : List (List Char)) (site : Site)
    (h : applySite new lines site = some lines') :
    lines'.length = lines.length ∧ ∀ j, j + 1 ≠ site.line → lines'.getD j [] = lines.getD j [] := by
  by_cases hc : site.line = 0 ∨ lines.length < site.line
  · rw [applySite, if_pos hc] at h
    cases h
    exact ⟨rfl, fun _ _ => rfl⟩
  · have hk : 1 ≤ site.line ∧ site.line ≤ lines.length :=
      ⟨Nat.pos_of_ne_zero fun h0 => hc (.inl h0), Nat.not_lt.mp fun hl => hc (.inr hl)⟩
    rw [applySite_line new lines site.line site.s site.e hk] at h
    obtain ⟨l, -, rfl⟩ := Option.map_eq_some_iff.mp h
    refine ⟨List.length_set, fun j hj => ?_⟩
    rw [List.getD_eq_getElem?_getD, List.getD_eq_getElem?_getD,
      List.getElem?_set_ne fun (e : site.line - 1 = j) => hj (e ▸ Nat.sub_add_cancel hk.1)]

theorem applySites_line (new : List Char) (k : Nat) : ∀ (xs : List (Nat × Nat)) (ls : List (List Char)), 1 ≤ k ∧ k ≤ ls.length →
    applySites new ls (xs.map fun r => ⟨k, r.1, r.2⟩) = (spliceAll new (ls.getD (k - 1) []) xs).map (ls.set (k - 1))
  | [], ls, hk => by
    have hlt := Nat.sub_one_lt_of_le hk.1 hk.2
    rw [List.getD_eq_getElem?_getD, List.getElem?_eq_getElem hlt]
    exact congrArg some (List.set_getElem_self hlt).symm
  | x :: xs, ls, hk => by
    rw [applySites, spliceAll, List.map_cons, List.foldlM_cons, List.foldlM_cons, applySite_line new ls k _ _ hk]
    cases splice (ls.getD (k - 1) []) x.1 x.2 new with
    | none => rfl
    | some mid =>
      have := applySites_line new k xs (ls.set (k - 1) mid) (by rw [List.length_set]; exact hk)
      have hset : (ls.set (k - 1) mid).set (k - 1) = ls.set (k - 1) := funext fun _ => List.set_set ..
      rwa [List.getD_eq_getElem?_getD, List.getElem?_set_self (Nat.sub_one_lt_of_le hk.1 hk.2), hset] at this

/-- all the sites of ONE line `k`, rightmost first: that line becomes `rebuilt`, nothing else moves -/
theorem group_exact (new : List Char) (k : Nat) (lines : List (List Char)) (hk : 1 ≤ k ∧ k ≤ lines.length) :
    ∀ (rs : List (Nat × Nat)), Ranges (lines.getD (k - 1) []).length 0 rs →
    applySites new lines (rs.reverse.map fun r => ⟨k, r.1, r.2⟩) =
      some (lines.set (k - 1) (rebuilt new (lines.getD (k - 1) []) 0 rs)) :=
  fun rs hr => by rw [applySites_line new k _ lines hk, spliceAll_exact new _ rs 0 hr]; rfl

theorem sorted_rightmost_first (a b : Site) (h : a.line = b.line) : siteLt a b = decide (a.s > b.s) := by
  simp [siteLt, h, Gen.Refactor.rightmostFirst]

theorem sorted_later_line_first (a b : Site) (h : a.line ≠ b.line) : siteLt a b = decide (a.line > b.line) := by
  simp [siteLt, h, Gen.Refactor.laterLineFirst]

/-- a site that heads the list twice (e.g. through two rename lines naming the same method) is kept once -/
theorem dedup_repeated (a : Site) (r : List Site) : dedupAdjacent (a :: a :: r) = dedupAdjacent (a :: r) := by
  rw [dedupAdjacent]; simp

-- two calls on one line, a longer name, a multi-byte comment in front: exactly the two identifiers change
#guard (renameFile "fetchAll".toList ["x".toList, "  /* é */ a.of(b.of());".toList] [⟨2, 12, 14⟩, ⟨2, 17, 19⟩, ⟨2, 12, 14⟩]).map (·.map String.ofList)
  == some ["x", "  /* é */ a.fetchAll(b.fetchAll());"]

/-- what `spliceAll_exact` excludes: left to right the columns of the second site are stale once a longer name is spliced at the
    first (/repo spliced in the order found until its commit dbab1cd) -/
theorem stale_positions_witness :
    spliceAll "fetchAll".toList "a.of(b.of());".toList [(2, 4), (7, 9)] ≠ spliceAll "fetchAll".toList "a.of(b.of());".toList [(7, 9), (2, 4)] := by
  rw [String.toList_ofList, String.toList_ofList]; decide +kernel  -- (see Props/C14.lean: reading the characters off the literal)

end CocaVerif.Props.C05
