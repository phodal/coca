/-
  C17 — Every TODO/FIXME comment is reported once with its line; nothing else is.
  Inputs: source texts as lists of segments (`Todo.Seg`: code, literals, comments), of any number and
  length; `render` is their concatenation.
  Tie to the code: the model's lexer is compared with the real ANTLR CommentLexer on ~100k generated
  and malformed texts per thorough run (incl. its error recovery and longest-match fallback), and
  `parseComment` with the real ParseComment; markers, strip lengths and identifiers are regenerated.
  Not covered by the segment language: octal and unicode escapes, escaped backquotes in template
  literals, malformed literals (they are in the model and in the correspondence).
-/
import CocaVerif.Proofs.Todo

namespace CocaVerif.Props.C17
open CocaVerif CocaVerif.Todo

/-- the lexer recovers exactly the literal and comment segments, with their start lines -/
theorem lex_render (segs : List Seg) (h : WF segs = true) : lex (render segs) = toks 1 segs :=
  lexFrom_render segs _ 1 h (by omega)

def comments : Nat → List Seg → List (List Char × Nat)
  | _, [] => []
  | l, s :: r =>
    match s with
    | .block _ | .line _ | .hash _ => (s.text, l) :: comments (l + countNl s.text) r
    | _ => comments (l + countNl s.text) r

theorem comment_toks (segs : List Seg) : ∀ (l : Nat),
    ((toks l segs).filter fun t => isComment t.kind).map (fun t => (t.text, t.line)) = comments l segs := by
  induction segs with
  | nil => intro l; rfl
  | cons s r ih =>
    intro l
    cases s with
    | block _ | line _ | hash _ => exact congrArg (_ :: ·) (ih _)
    | _ => exact ih _  -- code yields no token, the token of a literal is filtered out

def scanComments (cs : List (List Char × Nat)) : Except String (List Todo) :=
  cs.foldl (fun acc c =>
    match acc, parseComment c.1 c.2 with
    | .ok l, .ok (some td) => .ok (l ++ [td])
    | .ok l, .ok none => .ok l
    | .ok _, .error e => .error e
    | .error e, _ => .error e) (.ok [])

/-- the report comes from the comment segments alone: one `parseComment` per line / block / hash comment,
    with the line where it starts, in source order; literals and code contribute nothing, whatever
    markers or TODO words they hold -/
theorem scan_exact (segs : List Seg) (h : WF segs = true) :
    scanText (render segs) = scanComments (comments 1 segs) := by
  unfold scanText scanComments
  rw [lex_render segs h, ← comment_toks segs 1, List.foldl_map]
  rfl

/-- a text without comment segments reports nothing, however many TODOs its strings hold -/
theorem strings_never_reported (segs : List Seg) (h : WF segs = true)
    (hno : ∀ s ∈ segs, match s with | .block _ | .line _ | .hash _ => False | _ => True) :
    scanText (render segs) = .ok [] := by
  rw [scan_exact segs h]
  have : ∀ l, comments l segs = [] := by
    clear h
    induction segs with
    | nil => intro l; rfl
    | cons s r ih =>
      intro l
      have hs := hno s List.mem_cons_self
      have ih := ih fun x hx => hno x (List.mem_cons_of_mem _ hx)
      cases s with
      | block _ | line _ | hash _ => exact hs.elim
      | _ => exact ih _
  rw [this 1]; rfl

theorem isPrefixL_length (a b : List Char) (h : Todo.isPrefixL a b = true) : a.length ≤ b.length := by
  fun_induction Todo.isPrefixL a b <;> simp_all

/-- checked on the regenerated marker table; it keeps the slice of `parseComment` in range -/
theorem strip_le_marker : ∀ m ∈ Gen.Todo.markers, Gen.Todo.markerStrip m ≤ m.length := by decide +kernel

theorem markerLen_le (t : List Char) : markerLen t ≤ t.length := by
  unfold markerLen
  split
  next m hf =>
    have hp := List.find?_some hf
    have hl := isPrefixL_length _ _ hp
    exact Nat.le_trans (strip_le_marker m (List.mem_of_find?_eq_some hf)) hl
  next => exact Nat.zero_le _

theorem todoIdentLen_isSome (t : List Char) : (todoIdentLen t).isSome = true ↔
    Todo.isPrefixL "TODO".toList (t.map upperAscii) = true ∨ Todo.isPrefixL "FIXME".toList (t.map upperAscii) = true := by
  simp [todoIdentLen, Gen.Todo.todoIdentifiers]  -- the regenerated identifier list has to be TODO, FIXME

/-- the second conjunct, for `reported_iff_prefix`: a TODO comes out exactly when `todoIdentLen` finds its word behind the marker -/
theorem parseComment_ok (text : List Char) (line : Nat) : ∃ r, parseComment text line = .ok r ∧
    r.isSome = (todoIdentLen (let t0 := trimSpace text
                              if markerLen t0 > 0 then trimSpace (t0.drop (markerLen t0)) else t0)).isSome := by
  unfold parseComment
  simp only [Nat.not_lt.mpr (markerLen_le _), ↓reduceIte]
  split
  next h => exact ⟨_, rfl, by rw [h]; rfl⟩
  next len h => rw [h]; split <;> exact ⟨_, rfl, rfl⟩

/-- no comment shape makes the scan crash: `parseComment` never takes the out-of-range slice -/
theorem parseComment_total (text : List Char) (line : Nat) : ∃ r, parseComment text line = .ok r :=
  let ⟨r, h, _⟩ := parseComment_ok text line
  ⟨r, h⟩

/-- a comment is reported iff, after the marker and blanks, its text begins with TODO or FIXME in
    any (ASCII) letter case -/
theorem reported_iff_prefix (text : List Char) (line : Nat) :
    (∃ td, parseComment text line = .ok (some td)) ↔
      (let t0 := trimSpace text
       let t1 := if markerLen t0 > 0 then trimSpace (t0.drop (markerLen t0)) else t0
       Todo.isPrefixL "TODO".toList (t1.map upperAscii) = true ∨ Todo.isPrefixL "FIXME".toList (t1.map upperAscii) = true) := by
  obtain ⟨r, h, hs⟩ := parseComment_ok text line
  rw [← todoIdentLen_isSome, ← hs, h]
  cases r <;> simp

theorem sources_pinned : Gen.Todo.todoIdentifiers = ["TODO", "FIXME"] ∧ Gen.Todo.markers = ["//", "/*", "*/", "#"] ∧
    Gen.Todo.assignSrc = "^\\([\\w \\._\\+\\-@]+\\)" := ⟨rfl, rfl, rfl⟩

-- non-vacuity
example : WF [.code "x = ".toList, .str "// TODO no".toList, .code " ".toList, .line " TODO(bob): yes".toList,
              .code "\ny ".toList, .hash "fixme later".toList] = true := by
  repeat rw [String.toList_ofList]  -- (see Props/C14.lean: reading the characters off the literal)
  decide +kernel
example : (match scanText "x = \"// TODO no\" // TODO(bob): yes\ny #fixme later".toList with | .ok l => l | .error _ => []) =
    [{ assignee := "bob", line := 1, message := "yes" }, { assignee := "", line := 2, message := "later" }] := by
  conv in String.toList _ => rw [String.toList_ofList]  -- from outside the `match` the same `rw` is several times dearer to check
  decide +kernel

-- the literal kinds, each hiding a quote or a marker, then a real comment
def litSample : List Seg :=
  [.estr [.plain 'a', .esc '"', .plain '/', .plain '/', .plain 'T', .esc '\\'], .code " ".toList, .chr '"', .code " ".toList,
   .echr '\'', .code " ".toList, .tmpl "# TODO no".toList, .code "\n".toList, .line "fixme: yes".toList]
example : WF litSample = true := by
  unfold litSample; repeat rw [String.toList_ofList]
  decide +kernel
example : String.ofList (render litSample) = "\"a\\\"//T\\\\\" '\"' '\\'' `# TODO no`\n//fixme: yes" := by
  unfold litSample; repeat rw [String.toList_ofList]
  rfl
example : (match scanText (render litSample) with | .ok l => l | .error _ => []) =
    [{ assignee := "", line := 2, message := "yes" }] := by
  conv in litSample => unfold litSample; repeat rw [String.toList_ofList]
  decide +kernel

end CocaVerif.Props.C17
