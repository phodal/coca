/-
  C10 — Bad-smell findings match the documented thresholds exactly (decision layer).
  Each `*_exact` theorem characterises, for EVERY list of analysed types, the exact sub-list of findings of
  one kind, using the numbers of the property statement (30, 5, 20, 8, 4 lines); the model uses the
  constants and comparisons regenerated from bs_app.go, so a changed constant/comparison breaks these.
-/
import CocaVerif.Proofs.Bs
import CocaVerif.Base.Oracle

namespace CocaVerif.Props.C10
open CocaVerif.Bs CocaVerif.Gen.Bs

def ofKind (k : String) (l : List Finding) : List Finding := l.filter (fun f => f.bs == k)

theorem ofKind_analysis (k : String) (nodes : List BSNode) :
    ofKind k (analysis nodes) = nodes.flatMap fun n =>
      (if "lazyElement" = k then lazyF n else []) ++
      (n.fns.flatMap fun m =>
        (if "longMethod" = k then longMethodF n m else []) ++ (if "longParameterList" = k then longParamsF n m else []) ++
        (if "repeatedSwitches" = k then repeatedIfF n m else []) ++
        (if "repeatedSwitches" = k then repeatedSwitchF n m else []) ++
        (if "complexCondition" = k then complexIfF n m else [])) ++
      (if "dataClass" = k then dataClassF n else []) ++ (if "largeClass" = k then largeClassF n else []) := by
  simp only [ofKind, analysis, nodeFindings, fnFindings, List.filter_flatMap, List.filter_append,
    filter_uniform_tag Finding.bs (lazyF_kind _), filter_uniform_tag Finding.bs (dataClassF_kind _),
    filter_uniform_tag Finding.bs (largeClassF_kind _), filter_uniform_tag Finding.bs (longMethodF_kind _ _),
    filter_uniform_tag Finding.bs (longParamsF_kind _ _), filter_uniform_tag Finding.bs (repeatedIfF_kind _ _),
    filter_uniform_tag Finding.bs (repeatedSwitchF_kind _ _), filter_uniform_tag Finding.bs (complexIfF_kind _ _)]

/-- longMethod exactly for methods whose last line lies more than 30 lines below their start line -/
theorem longMethod_exact (nodes : List BSNode) :
    ofKind "longMethod" (analysis nodes) = nodes.flatMap fun n => n.fns.flatMap fun m =>
      if m.stopLine - m.startLine > 30 then
        [{ file := n.path, line := itoa m.startLine, bs := "longMethod",
           desc := "method length: " ++ itoa (m.stopLine - m.startLine), size := m.stopLine - m.startLine }]
      else [] := by
  simp [ofKind_analysis, longMethodF, longMethodCond, BS_METHOD_LENGTH, SMELL_LONG_METHOD]

/-- longParameterList exactly for methods with more than 5 parameters.  The description is not part of the claim: Go writes
    the JSON of the parameters there, which the model does not carry; `"<params json>"` stands in for it, and the harness
    (harness/cmd/harness/bs.go, `conv`) puts the same text over the real description before comparing. -/
theorem longParameterList_exact (nodes : List BSNode) :
    ofKind "longParameterList" (analysis nodes) = nodes.flatMap fun n => n.fns.flatMap fun m =>
      if m.nParams > 5 then
        [{ file := n.path, line := itoa m.startLine, bs := "longParameterList", desc := "<params json>", size := m.nParams }]
      else [] := by
  simp [ofKind_analysis, longParamsF, longParamsCond, BS_LONG_PARAS_LENGTH, SMELL_LONG_PARAMETER_LIST]

/-- repeatedSwitches exactly for methods with at least 8 top-level ifs, or at least 8 top-level switches (one finding each) -/
theorem repeatedSwitches_exact (nodes : List BSNode) :
    ofKind "repeatedSwitches" (analysis nodes) = nodes.flatMap fun n => n.fns.flatMap fun m =>
      (if m.ifSize ≥ 8 then
        [{ file := n.path, line := itoa m.startLine, bs := "repeatedSwitches", desc := "ifSize", size := m.ifSize }] else []) ++
      (if m.switchSize ≥ 8 then
        [{ file := n.path, line := itoa m.startLine, bs := "repeatedSwitches", desc := "switchSize", size := m.switchSize }] else []) := by
  simp [ofKind_analysis, repeatedIfF, repeatedSwitchF, repeatedIfCond, repeatedSwitchCond, BS_IF_SWITCH_LENGTH,
    SMELL_REPEATED_SWITCHES]

/-- complexCondition exactly for top-level if conditions spanning at least 4 lines -/
theorem complexCondition_exact (nodes : List BSNode) :
    ofKind "complexCondition" (analysis nodes) = nodes.flatMap fun n => n.fns.flatMap fun m => m.ifs.flatMap fun i =>
      if i.endLine - i.startLine + 1 ≥ 4 then
        [{ file := n.path, line := itoa i.startLine, bs := "complexCondition", desc := "complexCondition" }]
      else [] := by
  have (i : IfInfo) : (i.endLine - i.startLine + 1 ≥ 4) ↔ (i.endLine - i.startLine ≥ 3) := by omega
  simp [ofKind_analysis, complexIfF, complexIfCond, BS_IF_LINES_LENGTH, SMELL_COMPLEX_CONDITION, this]

/-- lazyElement exactly for classes without methods -/
theorem lazyElement_exact (nodes : List BSNode) :
    ofKind "lazyElement" (analysis nodes) = nodes.flatMap fun n =>
      if n.type = "Class" ∧ n.fns.length = 0 then [{ file := n.path, bs := "lazyElement" }] else [] := by
  simp [ofKind_analysis, flatMap_const_nil, lazyF, lazyCond, SMELL_LAZY_ELEMENT]

/-- dataClass exactly for classes that have methods and only getters/setters -/
theorem dataClass_exact (nodes : List BSNode) :
    ofKind "dataClass" (analysis nodes) = nodes.flatMap fun n =>
      if n.type = "Class" ∧ n.fns.length > 0 ∧ (∀ m ∈ n.fns, m.name.startsWith "set" ∨ m.name.startsWith "get") then
        [{ file := n.path, bs := "dataClass", size := n.fns.length }] else [] := by
  simp only [ofKind_analysis, String.reduceEq, if_true, if_false, List.nil_append, List.append_nil, flatMap_const_nil]
  congr 1; funext n
  refine ite_congr (propext ?_) (fun _ => rfl) (fun _ => rfl)
  simp only [dataClassCond, onlyGetSet, isGetterSetter, Bool.and_eq_true, List.all_eq_true, Bool.or_eq_true, beq_iff_eq,
    decide_eq_true_eq]
  exact ⟨fun ⟨⟨a, b⟩, c⟩ => ⟨b, c, a⟩, fun ⟨b, c, a⟩ => ⟨⟨a, b⟩, c⟩⟩

/-- largeClass exactly for classes with at least 20 methods that are not getters/setters -/
theorem largeClass_exact (nodes : List BSNode) :
    ofKind "largeClass" (analysis nodes) = nodes.flatMap fun n =>
      if n.type = "Class" ∧ (n.fns.filter fun m => !(m.name.startsWith "set" || m.name.startsWith "get")).length ≥ 20 then
        [{ file := n.path, bs := "largeClass",
           desc := "methods number (without getter/setter): " ++ toString (normalLen n), size := normalLen n }] else [] := by
  simp [ofKind_analysis, flatMap_const_nil, largeClassF, largeClassCond, normalLen, isGetterSetter, BS_LARGE_LENGTH,
    SMELL_LARGE_CLASS]

/-- nothing but the seven kinds is reported by this layer -/
theorem kinds_closed (nodes : List BSNode) : ∀ f ∈ analysis nodes,
    f.bs ∈ ["lazyElement", "longMethod", "longParameterList", "repeatedSwitches", "complexCondition", "dataClass", "largeClass"] := by
  intro f hf
  simp only [analysis, nodeFindings, fnFindings, List.mem_flatMap, List.mem_append] at hf
  obtain ⟨n, _, h⟩ := hf
  rcases h with ((h | ⟨m, _, h⟩) | h) | h
  · simp [lazyF_kind n f h]
  · rcases h with (((h | h) | h) | h) | h
    · simp [longMethodF_kind n m f h]
    · simp [longParamsF_kind n m f h]
    · simp [repeatedIfF_kind n m f h]
    · simp [repeatedSwitchF_kind n m f h]
    · simp [complexIfF_kind n m f h]
  · simp [dataClassF_kind n f h]
  · simp [largeClassF_kind n f h]

/-- the ignore option removes exactly the named kinds; this is how `identify` is defined (after `FilterBadSmellList`) -/
theorem ignore_exact (nodes : List BSNode) (ig : List String) :
    identify nodes ig = (analysis nodes).filter (fun f => !ig.contains f.bs) := rfl

/-- sorting by type: the group of kind `k` is a permutation of the findings of that kind -/
theorem sort_groups (l : List Finding) : ∀ kg ∈ sortByType l, kg.2.Perm (l.filter (·.bs == kg.1)) := by
  intro kg hkg
  obtain ⟨k, _, rfl⟩ := List.mem_map.mp hkg
  dsimp only
  split
  · exact List.mergeSort_perm _ _
  · exact List.Perm.refl _

/-- sorting by type: each kind occurs as exactly one group, in first-occurrence order -/
theorem sort_keys (l : List Finding) : (sortByType l).map (·.1) = (l.map (·.bs)).eraseDups :=
  map_map_cancel (fun _ => rfl) _

/-- sorting by type: each of the five kinds that carry a size is in non-increasing size order -/
theorem sort_sized_nonincreasing (l : List Finding) : ∀ kg ∈ sortByType l,
    kg.1 ∈ ["largeClass", "repeatedSwitches", "longParameterList", "longMethod", "dataClass"] →
      kg.2.Pairwise (fun a b => a.size ≥ b.size) := by
  intro kg hkg hk
  obtain ⟨k, _, rfl⟩ := List.mem_map.mp hkg
  -- `isSized k` is `Gen.Bs.sizedKinds.contains k`: the regenerated list has to be, literally, the list of the statement
  have hs : isSized k = true := List.contains_iff_mem.mpr hk
  dsimp only
  rw [if_pos hs]
  exact pairwise_mergeSort_key (· ≥ ·) Finding.size (fun _ _ _ h1 h2 => Int.le_trans h2 h1) (fun a b => Int.le_total b a) _

-- non-vacuity: a 31-line method is reported, a 30-line one is not
example : ofKind "longMethod" (analysis [{ path := "A.java", type := "Class", fns :=
    [{ name := "m", startLine := 10, stopLine := 41, nParams := 0, ifSize := 0, switchSize := 0, ifs := [] },
     { name := "k", startLine := 50, stopLine := 80, nParams := 0, ifSize := 0, switchSize := 0, ifs := [] }] }]) =
    [{ file := "A.java", line := "10", bs := "longMethod", desc := "method length: 31", size := 31 }] := by decide +kernel

end CocaVerif.Props.C10
