/-
  C03 — Call graph shows only real calls, all direct callees of the root, and terminates.
  All theorems are for EVERY model (cyclic, dense, duplicate names, unresolved callees), every root, every DI map, every
  counter value.  T1 … T7 are the numbers of DESIGN.md §7 C03; T5 (the reported size is the number of edges plus one) and
  T6 (the DOT text is well formed) are not proved: the oracle of vlib/p_call.py checks them on the real output.
-/
import CocaVerif.Proofs.Call
import CocaVerif.Base.Fold

namespace CocaVerif.Props.C03
open CocaVerif.Call

/-- T1: every emitted edge A -> B is a recorded call from A to B (after DI replacement), with A
    reachable from the root. -/
theorem edge_sound (c : Cfg) (fuel lc : Nat) (root : String) :
    ∀ e ∈ edgesOf (chain c fuel lc root).1, Calls c e.1 e.2 ∧ Reach c root e.1 :=
  chain_sound c root fuel lc root (.refl _)

/-- T2: every direct callee of the root is present, unless the budget test fires at entry; it does not for a counter reset
    at entry (`fresh_counter_not_hit`). -/
theorem root_callees_present (c : Cfg) (fuel lc : Nat) (root : String)
    (h : Gen.Call.callBudgetHit lc c.max = false) :
    ∀ ch ∈ c.mm root, (root, c.di ch) ∈ edgesOf (chain c (fuel + 1) lc root).1 := by
  intro ch hch
  rw [chain_enter c fuel lc root h (List.isEmpty_eq_false_iff_exists_mem.mpr ⟨ch, hch⟩)]
  exact loopWith_all_edges c root (chain c fuel) _ _ ch hch

theorem fresh_counter_not_hit : Gen.Call.callBudgetHit 0 Gen.Call.maxLoopCount = false := by decide

/-- T3 (termination within the fixed budget): `chain` is a total function, and the global expansion
    counter never exceeds `maxLoopCount + 1`. -/
theorem expansions_le_budget (c : Cfg) (fuel lc : Nat) (root : String) (h : lc ≤ c.max + 1) :
    (chain c fuel lc root).2.1 ≤ c.max + 1 ∧ lc ≤ (chain c fuel lc root).2.1 :=
  ⟨chain_bound c fuel lc root h, chain_mono c fuel lc root⟩

/-- the fuel of the entry points is never used up: any two sufficient fuels agree -/
theorem fuel_irrelevant (c : Cfg) (n m lc : Nat) (f : String)
    (h1 : c.max + 2 ≤ n + lc) (h2 : c.max + 2 ≤ m + lc) : chain c n lc f = chain c m lc f :=
  chain_fuel_irrelevant c n m lc f h1 h2

/-- T4: whenever the budget test never fired, the edge set is exactly the reachable call relation (with T1) -/
theorem complete_of_not_truncated (c : Cfg) (fuel lc : Nat) (root : String)
    (h : (chain c fuel lc root).2.2 = false) :
    ∀ a b, Reach c root a → Calls c a b → (a, b) ∈ edgesOf (chain c fuel lc root).1 :=
  chain_complete c fuel lc root h

/-- T7, on the `Size` column of `AnalysisByFiles`: the size reported for an API is the one of `apiChain`, a function of the
    configuration and that API alone (the counter is reset per API).  The `head` of the statement is what follows in the column. -/
theorem byFiles_api_independent (clzs : List DS) (di : List (String × String)) (pre post : List Api) (a : Api) (st : St) :
    ∃ head, ((analysisByFiles clzs di (pre ++ a :: post) st).1.2.map (·.size)).drop pre.length
      = splitCount (renderAll (apiChain (cfgOf clzs di) a).1) :: head := by
  let entry (a : Api) : CallApi := ⟨a.httpMethod, a.uri, a.caller, splitCount (renderAll (apiChain (cfgOf clzs di) a).1)⟩
  -- the loop only appends to the `CallApi` column: projected to that column it is `foldl (fun l a => l ++ [entry a]) []`
  have col : (analysisByFiles clzs di (pre ++ a :: post) st).1.2 = (pre ++ a :: post).map entry :=
    (List.foldl_hom (fun acc : String × List CallApi × Nat => acc.2.1) fun _ _ => rfl).symm.trans (List.foldl_snoc_map entry _ [])
  simp [col, entry]  -- `drop pre.length` of `(pre ++ a :: post).map entry` is `(a :: post).map entry`

-- non-vacuity: a cyclic model whose root has a callee, at a fresh counter
example : ∃ c : Cfg, Gen.Call.callBudgetHit 0 c.max = false ∧ (c.mm "a").length = 1 ∧ Calls c "a" "b" ∧ Calls c "b" "a" :=
  ⟨{ mm := fun f => if f == "a" then ["b"] else if f == "b" then ["a"] else [], di := id, max := Gen.Call.maxLoopCount },
   by decide, by decide, ⟨"b", by decide, rfl⟩, ⟨"a", by decide, rfl⟩⟩

end CocaVerif.Props.C03
