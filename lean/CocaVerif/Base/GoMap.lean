/-
  Go maps as insertion logs: a `List (κ × ν)` in insertion order, where a later binding of the same
  key overwrites (`m[k] = v`).  `get?` therefore returns the LAST binding.  A log is read through `get?` and `keys` only;
  `entries` is determined by the two.  Iteration order of a Go map is unspecified; models that range over a map take an
  iteration oracle (Base/Oracle.lean).
-/
import CocaVerif.Base.Lists

namespace CocaVerif.GoMap

variable {κ ν : Type} [BEq κ]

/-- `v, ok := m[k]` -/
def get? : List (κ × ν) → κ → Option ν
  | [], _ => none
  | (k, v) :: r, q =>
    match get? r q with
    | some x => some x
    | none => if k == q then some v else none

/-- `m[k]` for slice-valued maps: missing ⇒ nil. -/
def getL (m : List (κ × List ν)) (q : κ) : List ν := (get? m q).getD []

def has (m : List (κ × ν)) (q : κ) : Bool := (get? m q).isSome

/-- `m[k] = v` -/
def set (m : List (κ × ν)) (k : κ) (v : ν) : List (κ × ν) := m ++ [(k, v)]

/-- keys in first-insertion order, each once -/
def keys : List (κ × ν) → List κ
  | [] => []
  | (k, _) :: r => k :: (keys r).filter (fun x => !(x == k))

def dedup : List κ → List κ
  | [] => []
  | k :: r => k :: (dedup r).filter (fun x => !(x == k))

/-- the current bindings, in first-insertion order -/
def entries (m : List (κ × ν)) : List (κ × ν) :=
  (keys m).filterMap fun k => (get? m k).map fun v => (k, v)

/-- `delete(m, k)` -/
def erase (m : List (κ × ν)) (q : κ) : List (κ × ν) := m.filter fun p => !(p.1 == q)

@[simp] theorem get?_nil (q : κ) : get? ([] : List (κ × ν)) q = none := rfl

theorem get?_append (a b : List (κ × ν)) (q : κ) : get? (a ++ b) q = (get? b q).or (get? a q) := by
  induction a with
  | nil => simp [get?]
  | cons p r ih =>
    simp only [List.cons_append, get?, ih]
    cases get? b q <;> rfl

theorem get?_set (m : List (κ × ν)) (k : κ) (v : ν) (q : κ) :
    get? (set m k v) q = if k == q then some v else get? m q := by
  rw [set, get?_append]
  show (if k == q then some v else none).or _ = _
  cases k == q <;> rfl

theorem getL_set (m : List (κ × List ν)) (k : κ) (v : List ν) (q : κ) :
    getL (set m k v) q = if k == q then v else getL m q := by
  unfold getL
  rw [get?_set]
  cases k == q <;> rfl

theorem keys_eq_dedup (m : List (κ × ν)) : keys m = dedup (m.map (·.1)) := by
  induction m with
  | nil => rfl
  | cons p r ih => simp only [keys, List.map_cons, dedup, ih]

theorem keys_foldl_set {α : Type} (key : α → κ) (val : List (κ × ν) → α → ν) (l : List α) (m : List (κ × ν)) :
    keys (l.foldl (fun m x => set m (key x) (val m x)) m) = dedup (m.map (·.1) ++ l.map key) := by
  rw [keys_eq_dedup]
  induction l generalizing m with
  | nil => simp
  | cons x xs ih => rw [List.foldl_cons, ih]; simp [set]

/-- `m` logs `L` (`hk`, `hv`: its keys are `L.map key`, its values related by `R`); `m'` has one new key `key x`, bound to
    a value related to `x`: it logs `L ++ [x]`. -/
theorem log_snoc {α β : Type} {key : β → κ} {R : α → β → Prop} {m m' : List (κ × α)} {L : List β} {x : β} {v : α}
    (hk : keys m = L.map key) (hv : ∀ y ∈ L, ∃ f, get? m (key y) = some f ∧ R f y) (hfresh : ¬ key x ∈ L.map key)
    (hk' : keys m' = keys m ++ [key x]) (ho : ∀ q, q ≠ key x → get? m' q = get? m q)
    (hm : get? m' (key x) = some v) (hr : R v x) :
    keys m' = (L ++ [x]).map key ∧ ∀ y ∈ L ++ [x], ∃ f, get? m' (key y) = some f ∧ R f y := by
  refine ⟨by rw [hk', hk, List.map_append, List.map_singleton], fun y hy => ?_⟩
  rcases List.mem_append.mp hy with hy | hy
  · rw [ho _ fun e => hfresh (e ▸ List.mem_map_of_mem hy)]; exact hv y hy
  · cases List.mem_singleton.mp hy; exact ⟨v, hm, hr⟩

variable [LawfulBEq κ]

theorem get?_set_self (m : List (κ × ν)) (k : κ) (v : ν) : get? (set m k v) k = some v := by
  rw [get?_set, if_pos (beq_self_eq_true k)]

theorem get?_set_ne (m : List (κ × ν)) (k : κ) (v : ν) {q : κ} (h : q ≠ k) : get? (set m k v) q = get? m q := by
  rw [get?_set, if_neg fun e => h (eq_of_beq e).symm]

/-- Go's `m[k] = f(k, m[k])`.  `f` is given the key because the value a missing entry starts from may carry it (an
    author's record starts with the author's name, Proofs/GitAuthors.lean). -/
theorem get?_set_modify (m : List (κ × ν)) (k q : κ) (f : κ → Option ν → ν) :
    get? (set m k (f k (get? m k))) q = if k == q then some (f q (get? m q)) else get? m q := by
  rw [get?_set]
  split
  · rename_i h; rw [eq_of_beq h]
  · rfl

theorem get?_erase (m : List (κ × ν)) (q k : κ) :
    get? (erase m q) k = if q == k then none else get? m k := by
  induction m with
  | nil => simp [erase]
  | cons p r ih =>
    unfold erase at ih ⊢
    rw [List.filter_cons]
    cases hq : p.1 == q
    · rw [Bool.not_false, if_pos rfl, get?, ih]
      cases hk : q == k
      · rfl
      · rw [← eq_of_beq hk, hq]
        rfl
    · rw [Bool.not_true, if_neg Bool.false_ne_true, ih]
      cases hk : q == k
      · rw [get?, eq_of_beq hq, hk]
        cases get? r k <;> rfl
      · rfl

theorem get?_foldl_erase (S : List κ) : ∀ (m : List (κ × ν)) (q : κ),
    get? (S.foldl erase m) q = if S.contains q then none else get? m q := by
  induction S with
  | nil => intro m q; rfl
  | cons k S ih =>
    intro m q
    rw [List.foldl_cons, ih, get?_erase, List.contains_cons, Bool.beq_comm (a := q)]
    cases S.contains q <;> cases k == q <;> rfl

theorem dedup_nodup (l : List κ) : (dedup l).Nodup := by
  induction l with
  | nil => exact .nil
  | cons k r ih => exact List.nodup_cons.mpr ⟨fun h => by simpa using (List.mem_filter.mp h).2, ih.filter _⟩

theorem mem_dedup (l : List κ) (x : κ) : x ∈ dedup l ↔ x ∈ l := by
  induction l with
  | nil => exact Iff.rfl
  | cons k r ih =>
    simp only [dedup, List.mem_cons, List.mem_filter, ih]
    by_cases hx : x = k <;> simp [hx]

theorem dedup_concat (l : List κ) (k : κ) : dedup (l ++ [k]) = if k ∈ l then dedup l else dedup l ++ [k] := by
  induction l with
  | nil => rfl
  | cons a r ih =>
    simp only [List.cons_append, dedup, ih]
    by_cases h : k ∈ r
    · simp [h]
    · by_cases e : k = a
      · subst e; simp [h]
      · simp [h, e]

theorem dedup_filter (p : κ → Bool) (l : List κ) : dedup (l.filter p) = (dedup l).filter p := by
  induction l with
  | nil => rfl
  | cons a r ih =>
    rw [dedup, List.filter_cons, List.filter_cons, List.filter_filter]
    split
    · rw [dedup, ih, List.filter_filter]
      simp only [Bool.and_comm]
    · rename_i h
      rw [ih]
      -- `a` fails `p`, so dropping `a` from what passes `p` changes nothing
      exact List.filter_congr fun x _ => by by_cases e : x = a <;> simp [e, h]

theorem keys_nodup (m : List (κ × ν)) : (keys m).Nodup := keys_eq_dedup m ▸ dedup_nodup _

theorem get?_isSome_iff_mem_keys (m : List (κ × ν)) (q : κ) : (get? m q).isSome = true ↔ q ∈ keys m := by
  induction m with
  | nil => exact ⟨nofun, nofun⟩
  | cons p r ih =>
    rw [keys, List.mem_cons, List.mem_filter, ← ih, get?]
    by_cases h : q = p.1
    · cases get? r q <;> simp [h]
    · cases get? r q <;> simp [h, Ne.symm h]

theorem keys_set (m : List (κ × ν)) (k : κ) (v : ν) :
    keys (set m k v) = if k ∈ keys m then keys m else keys m ++ [k] := by
  simp only [keys_eq_dedup, set, List.map_append, List.map_cons, List.map_nil, dedup_concat, mem_dedup]

theorem keys_set_mem (m : List (κ × ν)) (k : κ) (v : ν) (h : k ∈ keys m) : keys (set m k v) = keys m :=
  (keys_set m k v).trans (if_pos h)

theorem keys_set_not_mem (m : List (κ × ν)) (k : κ) (v : ν) (h : ¬ k ∈ keys m) : keys (set m k v) = keys m ++ [k] :=
  (keys_set m k v).trans (if_neg h)

theorem keys_erase (m : List (κ × ν)) (k : κ) : keys (erase m k) = (keys m).filter fun q => !(q == k) := by
  simp only [keys_eq_dedup, ← dedup_filter, List.filter_map]
  rfl

theorem keys_foldl_erase (S : List κ) : ∀ (m : List (κ × ν)),
    keys (S.foldl erase m) = (keys m).filter fun q => !S.contains q := by
  induction S with
  | nil => intro m; exact (List.filter_eq_self.mpr fun _ _ => rfl).symm
  | cons k S ih =>
    intro m
    rw [List.foldl_cons, ih, keys_erase, List.filter_filter]
    refine List.filter_congr fun q _ => ?_
    rw [List.contains_cons, Bool.not_or, Bool.and_comm]

theorem mem_entries (m : List (κ × ν)) (k : κ) (v : ν) : (k, v) ∈ entries m ↔ get? m k = some v := by
  simp only [entries, List.mem_filterMap, Option.map_eq_some_iff, Prod.mk.injEq]
  constructor
  · rintro ⟨_, _, _, h, rfl, rfl⟩; exact h
  · intro h; exact ⟨k, (get?_isSome_iff_mem_keys m k).mp (by simp [h]), v, h, rfl, rfl⟩

theorem entries_inj {m : List (κ × ν)} {a b : κ × ν} (ha : a ∈ entries m) (hb : b ∈ entries m) (h : a.1 = b.1) : a = b := by
  have ha := (mem_entries m a.1 a.2).mp ha
  rw [h, (mem_entries m b.1 b.2).mp hb] at ha
  exact Prod.ext h (Option.some.inj ha).symm

theorem map_entries {β : Type} (m : List (κ × ν)) (f : κ × ν → β) (g : κ → β)
    (h : ∀ k v, get? m k = some v → f (k, v) = g k) : (entries m).map f = (keys m).map g := by
  rw [entries, List.map_filterMap]
  refine filterMap_eq_map_of_mem fun k hk => ?_
  obtain ⟨v, hv⟩ := Option.isSome_iff_exists.mp ((get?_isSome_iff_mem_keys m k).mpr hk)
  simp [hv, h k v hv]

theorem map_fst_entries (m : List (κ × ν)) : (entries m).map (·.1) = keys m :=
  (map_entries m _ id fun _ _ _ => rfl).trans (List.map_id _)

theorem entries_keys_nodup (m : List (κ × ν)) : ((entries m).map (·.1)).Nodup :=
  map_fst_entries m ▸ keys_nodup m

/-- values that carry their key are listed without repetition of it -/
theorem nodup_map_entries (m : List (κ × ν)) (name : ν → κ) (h : ∀ k v, get? m k = some v → name v = k) :
    ((entries m).map fun e => name e.2).Nodup :=
  (map_entries m (fun e => name e.2) id h).trans (List.map_id _) ▸ keys_nodup m

theorem sum_entries_of_count (m : List (κ × ν)) (w : ν → Nat) (ws : List κ)
    (h : ∀ q, (get? m q).elim 0 w = ws.count q) : ((entries m).map fun e => w e.2).sum = ws.length := by
  rw [map_entries m _ (fun q => ws.count q) fun k v hk => by simpa [hk] using h k]
  refine sum_count_nodup (keys_nodup m) ws fun q hq => (get?_isSome_iff_mem_keys m q).mp ?_
  -- a key that occurs has a positive weight, so it is bound
  cases hg : get? m q with
  | some _ => rfl
  | none => have := h q; rw [hg] at this; exact absurd this.symm (Nat.ne_of_gt (List.count_pos_iff.mpr hq))

end CocaVerif.GoMap
