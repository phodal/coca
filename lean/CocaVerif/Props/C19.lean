/-
  C19 — Declared build dependencies are all extracted; the unused report is exact.
  Maven: the stack machine of `ParseXML` on token streams (`parse_tokens`, `noise_irrelevant`) and `AnalysisMaven` on the tree
  (`maven_exact`).  Gradle and the unused report: decision logic over abstract statements.
  Contracts not proved: encoding/xml's tokenisation, the Groovy parser.
-/
import CocaVerif.Model.Deps
import CocaVerif.Base.Fold

namespace CocaVerif.Props.C19
open CocaVerif CocaVerif.Deps

mutual
def toks : X → List XTok
  | .node n kids => .start n :: (toksL kids ++ [.stop])
  | .text s => [.chars s]
def toksL : List X → List XTok
  | [] => []
  | t :: ts => toks t ++ toksL ts
end

mutual
/-- the texts are trimmed and not empty: what the parser stores of character data -/
def wf : X → Prop
  | .node _ kids => wfL kids
  | .text s => trimSpace s = s ∧ s ≠ ""
def wfL : List X → Prop
  | [] => True
  | t :: ts => wf t ∧ wfL ts
end

def run (st : PSt) (ts : List XTok) : PSt := ts.foldl pstep st

theorem run_append (st : PSt) (a b : List XTok) : run st (a ++ b) = run (run st a) b := List.foldl_append

/-- for `run_toks` (inside a parent) and `parse_tokens` (at the root): the closing `.stop` acts differently there and is left standing -/
theorem run_node (n : String) (kids : List X) (stack : List (String × List X)) (root : X)
    (hk : run { stack := (n, []) :: stack, root := root } (toksL kids) = { stack := (n, kids) :: stack, root := root }) :
    run { stack := stack, root := root } (toks (.node n kids)) = pstep { stack := (n, kids) :: stack, root := root } .stop := by
  rw [toks, ← List.cons_append, run_append]
  exact congrArg (pstep · .stop) hk

mutual
/-- inside an open element, the tokens of a tree append that tree to the element's children -/
theorem run_toks (t : X) (h : wf t) (pn : String) (pk : List X) (rest : List (String × List X)) (root : X) :
    run { stack := (pn, pk) :: rest, root := root } (toks t) = { stack := (pn, pk ++ [t]) :: rest, root := root } := by
  match t with
  | .text s => simp only [toks, run, List.foldl_cons, List.foldl_nil, pstep, h.1, bne_iff_ne.mpr h.2, if_true]
  | .node n kids => exact run_node n kids _ root (run_toksL kids h n [] _ root)
theorem run_toksL (ts : List X) (h : wfL ts) (pn : String) (pk : List X) (rest : List (String × List X)) (root : X) :
    run { stack := (pn, pk) :: rest, root := root } (toksL ts) = { stack := (pn, pk ++ ts) :: rest, root := root } := by
  match ts with
  | [] => rw [List.append_nil]; rfl
  | t :: ts' => rw [toksL, run_append, run_toks t h.1, run_toksL ts' h.2, List.append_assoc]; rfl
end

/-- `ParseXML` rebuilds every element tree from its token stream -/
theorem parse_tokens (n : String) (kids : List X) (h : wfL kids) : parseXML (toks (.node n kids)) = .ok (.node n kids) := by
  rw [parseXML, ← run, run_node n kids [] _ (run_toksL kids h n [] [] _)]
  rfl

def isNoise : XTok → Bool
  | .other => true
  | .chars s => trimSpace s == ""
  | _ => false

theorem pstep_noise (st : PSt) (t : XTok) (h : isNoise t = true) : pstep st t = st := by
  cases t with
  | other => rfl
  | chars s =>
    simp only [isNoise, beq_iff_eq] at h
    rcases st with ⟨_ | ⟨⟨n, kids⟩, rest⟩, root⟩
    · rfl
    · simp only [pstep, h, bne_self_eq_false, Bool.false_eq_true, if_false]
  | start n => cases h
  | stop => cases h

/-- indentation, comments and the XML declaration anywhere in the stream do not change the result -/
theorem noise_irrelevant (ts : List XTok) : parseXML ts = parseXML (ts.filter fun t => !isNoise t) := by
  have : (fun st t => if (!isNoise t) = true then pstep st t else st) = pstep := by
    funext st t
    cases h : isNoise t
    · rfl
    · exact (pstep_noise st t h).symm
  rw [parseXML, parseXML, List.foldl_filter, this]

/-- a child of `<dependency>`: either one of the three fields with a single text, or any other element -/
inductive Field where
  | group (v : String)
  | artifact (v : String)
  | scope (v : String)
  | other (name : String) (kids : List X) (h : name ≠ "groupId" ∧ name ≠ "artifactId" ∧ name ≠ "scope")

def Field.toX : Field → X
  | .group v => .node "groupId" [.text v]
  | .artifact v => .node "artifactId" [.text v]
  | .scope v => .node "scope" [.text v]
  | .other n k _ => .node n k

def Field.apply (d : Dep) : Field → Dep
  | .group v => { d with group := v }
  | .artifact v => { d with artifact := v }
  | .scope v => { d with scope := v }
  | .other _ _ _ => d

/-- the fields in any order; of a repeated field the last one wins -/
def depOf (fs : List Field) : Dep := fs.foldl Field.apply {}

theorem buildDep_exact (fs : List Field) : buildDep (fs.map Field.toX) = .ok (depOf fs) := by
  rw [buildDep, List.foldl_map]
  refine List.foldl_hom Except.ok (g₁ := Field.apply) fun d f => ?_
  cases f with
  | other n k h =>
    simp only [Field.toX, Field.apply, beq_false_of_ne h.1, beq_false_of_ne h.2.1, beq_false_of_ne h.2.2, Bool.false_eq_true,
      ↓reduceIte]
  | _ => rfl

theorem buildDeps_exact (deps : List (List Field)) :
    buildDeps (deps.map fun fs => X.node "dependency" (fs.map Field.toX)) = .ok (deps.map depOf) := by
  rw [buildDeps, List.foldl_map]
  refine (List.foldl_hom Except.ok (g₁ := fun l fs => l ++ [depOf fs]) fun l fs => ?_).trans ?_
  · simp only [buildDep_exact]; rfl
  · rw [List.foldl_snoc_map]; rfl

theorem analysisRoot_skips (pre : List (String × List X)) (hpre : ∀ p ∈ pre, p.1 ≠ "dependencies")
    (ds post : List X) :
    analysisRoot (pre.map (fun p => X.node p.1 p.2) ++ X.node "dependencies" ds :: post) = buildDeps ds := by
  induction pre with
  | nil => rw [List.map_nil, List.nil_append, analysisRoot, if_pos (beq_self_eq_true _)]
  | cons p rest ih =>
    rw [List.map_cons, List.cons_append, analysisRoot, if_neg fun e => hpre p List.mem_cons_self (eq_of_beq e)]
    exact ih fun q hq => hpre q (List.mem_cons_of_mem _ hq)

/-- a pom whose root has the elements `pre` (none named `dependencies`), then `<dependencies>` with one `<dependency>` per
    field list, then `post`: `AnalysisMaven` returns exactly those dependencies, each once, in document order -/
theorem maven_exact (projName : String) (pre : List (String × List X)) (hpre : ∀ p ∈ pre, p.1 ≠ "dependencies")
    (deps : List (List Field)) (post : List X)
    (hwf : wfL (pre.map (fun p => X.node p.1 p.2) ++
      X.node "dependencies" (deps.map fun fs => X.node "dependency" (fs.map Field.toX)) :: post)) :
    analysisMaven (toks (.node projName (pre.map (fun p => X.node p.1 p.2) ++
      X.node "dependencies" (deps.map fun fs => X.node "dependency" (fs.map Field.toX)) :: post)))
    = .ok (deps.map depOf) := by
  rw [analysisMaven, parse_tokens _ _ hwf]
  exact (analysisRoot_skips pre hpre _ _).trans (buildDeps_exact deps)

/-- entries in other notations are skipped without disturbing the rest -/
theorem gradle_other_skipped (a b : List GStmt) (conf what : String) :
    gradleDeps (a ++ { conf := conf, nota := .other what } :: b) = gradleDeps a ++ gradleDeps b := by
  simp [gradleDeps, stmtDeps]

/-- a string notation `g:a[:v]` — single or double quoted, parenthesised or not, with or without a
    configuration closure — is extracted exactly once, in declaration order, with its configuration -/
theorem gradle_string_extracted (a b : List GStmt) (conf text : String) (q : Char) (paren closure : Bool) (d : Dep)
    (h : convert conf text = some d) :
    gradleDeps (a ++ { conf := conf, nota := .str q paren closure text } :: b) = gradleDeps a ++ d :: gradleDeps b := by
  simp [gradleDeps, stmtDeps, h]

/-- a statement with several string notations (`implementation 'a:b', 'c:d'`) declares each of them, in order -/
theorem gradle_strings_all_extracted (a b : List GStmt) (conf : String) (paren : Bool) (texts : List String) (ds : List Dep)
    (h : texts.map (convert conf) = ds.map some) :
    gradleDeps (a ++ { conf := conf, nota := .strs paren texts } :: b) = gradleDeps a ++ ds ++ gradleDeps b := by
  have hf : texts.filterMap (convert conf) = ds := by
    have := congrArg (List.filterMap id) h
    rwa [List.filterMap_map, List.filterMap_map, Function.id_comp, Function.id_comp, List.filterMap_some] at this
  rw [gradleDeps, List.flatMap_append, List.flatMap_cons, ← List.append_assoc, ← hf]
  rfl

theorem unused_exact (declared : List Dep) (imports : List String) (d : Dep) :
    d ∈ unused declared imports ↔ d ∈ declared ∧ ∀ i ∈ imports, containsSub i d.group = false := by
  simp [unused]

theorem unused_sublist (declared : List Dep) (imports : List String) : (unused declared imports).Sublist declared :=
  List.filter_sublist

-- (tests) a dependency with fields in unusual order and extra children; a Gradle string split
example : depOf [.scope "test", .other "version" [.text "1"] (by decide), .artifact "junit", .group "junit"] =
    { group := "junit", artifact := "junit", scope := "test" } := rfl
#guard convert "api" "org.a:lib-a:1.0" = some { group := "org.a", artifact := "lib-a", scope := "api" }
#guard convert "api" "justone" = none

end CocaVerif.Props.C19
