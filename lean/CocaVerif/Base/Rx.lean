/-
  Regular right-hand sides of grammar rules, and checks on them that are decided structurally and proved sound against
  the language of the expression: kernel evaluation on a rule of the shipped grammar is then a proof about every
  parse-tree node of that rule.
-/
namespace CocaVerif

inductive Rx where
  | eps
  | sym (s : String)
  | seq (a b : Rx)
  | alt (a b : Rx)
  | star (a : Rx)
  deriving Repr, Inhabited

inductive Matches : Rx → List String → Prop
  | eps : Matches .eps []
  | sym (s : String) : Matches (.sym s) [s]
  | seq {a b : Rx} {u v : List String} : Matches a u → Matches b v → Matches (.seq a b) (u ++ v)
  | altL {a b : Rx} {u : List String} : Matches a u → Matches (.alt a b) u
  | altR {a b : Rx} {u : List String} : Matches b u → Matches (.alt a b) u
  | starNil {a : Rx} : Matches (.star a) []
  | starCons {a : Rx} {u v : List String} : Matches a u → Matches (.star a) v → Matches (.star a) (u ++ v)

namespace Rx

/-- `x` occurs in every word of the expression -/
def always (x : String) : Rx → Bool
  | .eps => false
  | .sym s => s == x
  | .seq a b => always x a || always x b
  | .alt a b => always x a && always x b
  | .star _ => false

theorem always_sound (x : String) {r : Rx} {w : List String} (hm : Matches r w) : always x r = true → x ∈ w := by
  induction hm <;> simp_all [always, or_imp]

/-- the empty word is not in the language -/
def nonEmpty : Rx → Bool
  | .eps => false
  | .sym _ => true
  | .seq a b => nonEmpty a || nonEmpty b
  | .alt a b => nonEmpty a && nonEmpty b
  | .star _ => false

theorem nonEmpty_sound {r : Rx} {w : List String} (hm : Matches r w) : nonEmpty r = true → w ≠ [] := by
  induction hm <;> simp_all [nonEmpty, or_imp]

/-- the presence profile of `w`: which of the few symbols of interest `S` occur in it -/
def prof (S w : List String) : List String := S.filter fun s => w.contains s

def join (S p q : List String) : List String := S.filter fun s => p.contains s || q.contains s

theorem prof_contains (S w : List String) (s : String) (hs : s ∈ S) : (prof S w).contains s = w.contains s := by
  rw [Bool.eq_iff_iff]; simp [prof, hs]

theorem prof_append (S u v : List String) : prof S (u ++ v) = join S (prof S u) (prof S v) := by
  refine List.filter_congr fun s hs => ?_
  rw [prof_contains S u s hs, prof_contains S v s hs]
  simp

def dedupL (l : List (List String)) : List (List String) := l.foldl (fun acc p => if acc.contains p then acc else acc ++ [p]) []

/-- `pv` runs `S.length + 1` rounds; how many only decides whether the `closed` certificate then checks, soundness
    rests on the certificate alone -/
def closeN (S : List String) (A : List (List String)) : Nat → List (List String) → List (List String)
  | 0, X => X
  | n + 1, X => closeN S A n (dedupL (X ++ X.flatMap fun q => A.map fun p => join S p q))

/-- the certificate that is checked instead of proving that `closeN` reaches a fixpoint -/
def closed (S : List String) (A X : List (List String)) : Bool :=
  X.contains (prof S []) && A.all fun p => X.all fun q => X.contains (join S p q)

/-- the possible profiles of the words of an expression, and whether every star certificate checked -/
def pv (S : List String) : Rx → List (List String) × Bool
  | .eps => ([prof S []], true)
  | .sym s => ([prof S [s]], true)
  | .seq a b => ((pv S a).1.flatMap fun p => (pv S b).1.map fun q => join S p q, (pv S a).2 && (pv S b).2)
  | .alt a b => ((pv S a).1 ++ (pv S b).1, (pv S a).2 && (pv S b).2)
  | .star a =>
    let X := closeN S (pv S a).1 (S.length + 1) [prof S []]
    (X, (pv S a).2 && closed S (pv S a).1 X)

theorem pv_sound (S : List String) {r : Rx} {w : List String} (hm : Matches r w) : (pv S r).2 = true → prof S w ∈ (pv S r).1 := by
  induction hm with
  | eps | sym s => intro _; simp [pv]
  | seq _ _ iha ihb =>
    intro h
    simp only [pv, Bool.and_eq_true] at h
    simp only [pv, List.mem_flatMap, List.mem_map]
    exact ⟨_, iha h.1, _, ihb h.2, (prof_append S _ _).symm⟩
  | altL _ ih => intro h; simp only [pv, Bool.and_eq_true] at h; simp only [pv, List.mem_append]; exact Or.inl (ih h.1)
  | altR _ ih => intro h; simp only [pv, Bool.and_eq_true] at h; simp only [pv, List.mem_append]; exact Or.inr (ih h.2)
  | starNil =>
    intro h
    simp only [pv, Bool.and_eq_true, closed, List.contains_iff_mem] at h
    simpa [pv] using h.2.1
  | starCons _ _ iha ihs =>
    intro h
    have h' := h
    simp only [pv, Bool.and_eq_true, closed, List.all_eq_true, List.contains_iff_mem] at h
    have hp := iha h.1
    have hq := ihs h'
    simp only [pv] at hq ⊢
    rw [prof_append]
    exact h.2.2 _ hp _ hq

/-- if every possible profile that has all of `given` also has `x`, then a word that has all of `given` has `x`; the Boolean test
    is the one `NavTree.sure` evaluates -/
theorem pv_given_sound {x : String} {given : List String} {r : Rx} {w : List String} (hm : Matches r w)
    (hok : (pv (x :: given) r).2 = true)
    (hall : (pv (x :: given) r).1.all (fun p => !(given.all fun y => p.contains y) || p.contains x) = true)
    (hgiven : ∀ y ∈ given, y ∈ w) : x ∈ w := by
  have hx := List.all_eq_true.mp hall _ (pv_sound (x :: given) hm hok)
  have hg : (given.all fun y => (prof (x :: given) w).contains y) = true :=
    List.all_eq_true.mpr fun y hy => by
      rw [prof_contains _ _ y (List.mem_cons_of_mem _ hy)]; exact List.contains_iff_mem.mpr (hgiven y hy)
  rw [hg, prof_contains _ _ x List.mem_cons_self] at hx
  simpa using hx

end Rx
end CocaVerif
