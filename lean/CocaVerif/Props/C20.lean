/-
  C20 — Go and Python front-ends list every declaration under its own name.

  Go (model of `CocagoParser.Visitor` and its builders): only `go_names_once` speaks of what `visitGo` reports; the other
  theorems speak of the fold inside it, `(ds.foldl (onDecl pkg) st).dsMap` / `.members`, for every declaration list in any order.
  Python (model of `PythonIdentListener`): the theorems speak of `runFrom st evs`, the listener's fold from ANY state.  None
  mentions `runPy cur evs`, which by unfolding is `runFrom { cur := c } evs`, with `c = none` by the last fact of
  `py_nesting_facts` (`NewPythonIdentListener` assigns `currentDataStruct`).
-/
import CocaVerif.Model.Front
import CocaVerif.Gen.Front

namespace CocaVerif.Props.C20
open CocaVerif CocaVerif.Front

theorem code_facts : Gen.Front.pythonCommandFilter = "cocafile.PythonFileFilter" ∧ Gen.Front.goCommandFilter = "cocafile.GoFileFilter" ∧
    Gen.Front.methodBeforeTypeHandled = true ∧ Gen.Front.groupedNamesExpanded = true ∧ Gen.Front.bodylessHandled = true ∧
    Gen.Front.pythonLexerGlobals = ["TabSize"] := ⟨rfl, rfl, rfl, rfl, rfl, rfl⟩

def fnsAt (m : List (String × GDS)) (n : String) : List GFn := match GoMap.get? m n with | some d => d.fns | none => []
def propsAt (m : List (String × GDS)) (n : String) : List GProp := match GoMap.get? m n with | some d => d.props | none => []

def methodsOf (n : String) : List GDecl → List GFn
  | [] => []
  | .func recv name ps body :: ds => if recv == n then buildFunction name ps body :: methodsOf n ds else methodsOf n ds
  | _ :: ds => methodsOf n ds

def ifaceWithMethods (n : String) : List GDecl → Bool
  | [] => false
  | .iface name ms :: ds => (name == n && ms.length ≥ 1) || ifaceWithMethods n ds
  | _ :: ds => ifaceWithMethods n ds

def structFields (n : String) : List GDecl → Option (List GGroup)
  | [] => none
  | .struct name fs :: ds => match structFields n ds with | some r => some r | none => if name == n then some fs else none
  | _ :: ds => structFields n ds

def fnsOf (o : Option GDS) : List GFn := match o with | some d => d.fns | none => []
def propsOf (o : Option GDS) : List GProp := match o with | some d => d.props | none => []

/-- `onDecl` seen at one key: what a declaration does to the cell of `n`; every branch of `onDecl` that stores is a
    `m[k] = f k (m[k])` (`get?_onDecl`) -/
def cellStep (pkg n : String) (o : Option GDS) : GDecl → Option GDS
  | .struct name fields =>
    if name == n then some { name := n, pkg := pkg, fns := fnsOf o, props := fieldsToProps fields } else o
  | .iface name ms =>
    if name == n then
      (if ms.length < 1 then some { name := n, pkg := pkg, fns := fnsOf o }
       else some { name := n, props := ms.map fun m => propertyOf m.1 .func })
    else o
  | .func recv name ps body =>
    if recv == "" then o
    else if recv == n then
      let cell : GDS := match o with | some d => d | none => { name := n, pkg := pkg }
      some { cell with fns := cell.fns ++ [buildFunction name ps body] }
    else o

theorem get?_onDecl (pkg n : String) (st : GState) (d : GDecl) :
    GoMap.get? (onDecl pkg st d).dsMap n = cellStep pkg n (GoMap.get? st.dsMap n) d := by
  -- every `fun k o => …` below has to repeat the record `onDecl` stores: `exact` compares the two only by unfolding
  cases d with
  | struct name fields =>
    exact GoMap.get?_set_modify st.dsMap name n fun k o => { name := k, pkg := pkg, fns := fnsOf o, props := fieldsToProps fields }
  | iface name ms =>
    by_cases h : ms.length < 1
    · rw [onDecl, cellStep, if_pos h, if_pos h]
      exact GoMap.get?_set_modify st.dsMap name n fun k o => { name := k, pkg := pkg, fns := fnsOf o }
    · rw [onDecl, cellStep, if_neg h, if_neg h]
      exact GoMap.get?_set_modify st.dsMap name n fun k _ => { name := k, props := ms.map fun m => propertyOf m.1 .func }
  | func recv name ps body =>
    by_cases h : (recv == "") = true
    · simp only [onDecl, cellStep, if_pos h]
    · simp only [onDecl, cellStep, if_neg h]
      exact GoMap.get?_set_modify st.dsMap recv n fun k o =>
        let cell : GDS := match o with | some d => d | none => { name := k, pkg := pkg }
        { cell with fns := cell.fns ++ [buildFunction name ps body] }

theorem get?_visit (pkg n : String) (ds : List GDecl) (st : GState) :
    GoMap.get? (ds.foldl (onDecl pkg) st).dsMap n = ds.foldl (cellStep pkg n) (GoMap.get? st.dsMap n) :=
  (List.foldl_hom (fun st : GState => GoMap.get? st.dsMap n) fun st d => (get?_onDecl pkg n st d).symm).symm

theorem ifaceWithMethods_cons (n : String) (d : GDecl) (ds : List GDecl) :
    ifaceWithMethods n (d :: ds) = (ifaceWithMethods n [d] || ifaceWithMethods n ds) := by
  cases d <;> simp [ifaceWithMethods]

theorem methodsOf_cons (n : String) (d : GDecl) (ds : List GDecl) : methodsOf n (d :: ds) = methodsOf n [d] ++ methodsOf n ds := by
  cases d with
  | func recv name ps body => simp only [methodsOf]; split <;> simp
  | struct _ _ => simp [methodsOf]
  | iface _ _ => simp [methodsOf]

theorem fnsOf_cellStep (pkg n : String) (hn0 : n ≠ "") (o : Option GDS) (d : GDecl) (h : ifaceWithMethods n [d] = false) :
    fnsOf (cellStep pkg n o d) = fnsOf o ++ methodsOf n [d] := by
  cases d with
  | struct name fs => simp only [cellStep, methodsOf, List.append_nil]; split <;> rfl
  | iface name ms =>
    simp only [cellStep, methodsOf, List.append_nil]
    by_cases hn : (name == n) = true
    · have hm : ¬ ms.length ≥ 1 := by
        simpa only [ifaceWithMethods, hn, Bool.true_and, Bool.or_false, decide_eq_false_iff_not] using h
      rw [if_pos hn, if_pos (Nat.lt_of_not_le hm)]; rfl
    · rw [if_neg hn]
  | func recv name ps body =>
    simp only [cellStep, methodsOf]
    by_cases hr : (recv == n) = true
    · rw [if_pos hr, if_pos hr, if_neg fun e => hn0 ((eq_of_beq hr).symm.trans (eq_of_beq e))]; cases o <;> rfl
    · rw [if_neg hr, if_neg hr, ite_self, List.append_nil]

/-- the cell of a type carries exactly the methods whose receiver it is, in file order, wherever they stand relative to the type
    declaration.  `hn0`: "" is the receiver the model gives a top-level function; `h`: Go allows no methods on an interface
    with methods, and `AddInterface` starts a fresh entry -/
theorem go_methods_exact (pkg : String) (ds : List GDecl) (n : String) (hn0 : n ≠ "") (h : ifaceWithMethods n ds = false) :
    fnsAt (ds.foldl (onDecl pkg) {}).dsMap n = methodsOf n ds := by
  show fnsOf (GoMap.get? _ n) = _
  rw [get?_visit]
  suffices ∀ o, fnsOf (ds.foldl (cellStep pkg n) o) = fnsOf o ++ methodsOf n ds from this none
  induction ds with
  | nil => intro o; exact (List.append_nil _).symm
  | cons d ds ih =>
    intro o
    rw [ifaceWithMethods_cons, Bool.or_eq_false_iff] at h
    rw [List.foldl_cons, ih h.2, fnsOf_cellStep pkg n hn0 o d h.1, methodsOf_cons n d ds, List.append_assoc]

theorem propsOf_cellStep (pkg n : String) (o : Option GDS) (d : GDecl) (hs : structFields n [d] = none)
    (hi : ∀ name ms, d = .iface name ms → name ≠ n) : propsOf (cellStep pkg n o d) = propsOf o := by
  cases d with
  | struct name fs =>
    have hn : ¬ (name == n) = true := fun hn => by simp [structFields, hn] at hs
    rw [cellStep, if_neg hn]
  | iface name ms => simp only [cellStep, beq_false_of_ne (hi name ms rfl)]; rfl
  | func recv name ps body =>
    simp only [cellStep]
    split
    · rfl
    · split
      · cases o <;> rfl
      · rfl

theorem structFields_cons_none (n : String) (d : GDecl) (ds : List GDecl) (h : structFields n (d :: ds) = none) :
    structFields n [d] = none ∧ structFields n ds = none := by
  cases d with
  | struct name fs =>
    simp only [structFields] at h ⊢
    cases hx : structFields n ds with
    | some r => rw [hx] at h; simp at h
    | none => rw [hx] at h; exact ⟨h, rfl⟩
  | iface _ _ => exact ⟨rfl, h⟩
  | func _ _ _ _ => exact ⟨rfl, h⟩

/-- a struct's cell carries exactly its fields, if no type declaration of that name follows (Go rejects a second one) -/
theorem go_fields_exact (pkg : String) (n : String) (fields : List GGroup) : ∀ (pre post : List GDecl) (st : GState),
    ifaceWithMethods n post = false → structFields n post = none → (∀ name ms, GDecl.iface name ms ∈ post → name ≠ n) →
    propsAt ((pre ++ GDecl.struct n fields :: post).foldl (onDecl pkg) st).dsMap n = fieldsToProps fields := by
  rintro pre post st - h2 h3
  show propsOf (GoMap.get? _ n) = _
  rw [get?_visit, List.foldl_append, List.foldl_cons]
  suffices ∀ o, propsOf (post.foldl (cellStep pkg n) o) = propsOf o by
    rw [this, cellStep, if_pos (beq_self_eq_true n)]; rfl
  induction post with
  | nil => exact fun _ => rfl
  | cons d ds ih =>
    intro o
    have hd := structFields_cons_none n d ds h2
    rw [List.foldl_cons, ih hd.2 fun name ms hm => h3 name ms (List.mem_cons_of_mem _ hm)]
    exact propsOf_cellStep pkg n o d hd.1 fun name ms e => h3 name ms (e ▸ List.mem_cons_self)

theorem propertyOf_name (n : String) (t : GTy) : (propertyOf n t).name = n := by
  unfold propertyOf; split <;> rfl

/-- every name of a grouped declaration `a, b T` once, in order; an unnamed field as "" -/
theorem props_names (gs : List GGroup) :
    (fieldsToProps gs).map (·.name) = gs.flatMap fun g => if g.names.length < 2 then [g.names.headD ""] else g.names := by
  rw [fieldsToProps, List.map_flatMap]
  refine congrArg (gs.flatMap ·) (funext fun g => ?_)
  unfold groupProps
  split
  · exact congrArg (· :: []) (propertyOf_name _ _)
  · rw [List.map_map]; exact (List.map_congr_left fun n _ => propertyOf_name n g.ty).trans (List.map_id _)

theorem calls_exact (name : String) (ps : List GGroup) (body : List GStmt) :
    (buildFunction name ps (some body)).calls = body.filterMap fun s => match s with
      | .call r f => some ⟨r, f⟩
      | .defer r f => some ⟨r, f⟩
      | .other => none := rfl

theorem bodyless_no_calls (name : String) (ps : List GGroup) : (buildFunction name ps none).calls = [] := rfl

def freeFunctions : List GDecl → List GMember
  | [] => []
  | .func recv name ps body :: ds =>
    if recv == "" then { dsId := "default", type := "method", fns := [buildFunction name ps body] } :: freeFunctions ds else freeFunctions ds
  | _ :: ds => freeFunctions ds

def isFree (m : GMember) : Bool := m.dsId == "default" && m.type == "method"

/-- one "default" member per top-level function, in file order -/
theorem go_functions_exact (pkg : String) : ∀ (ds : List GDecl) (st : GState),
    ((ds.foldl (onDecl pkg) st).members.filter isFree) = st.members.filter isFree ++ freeFunctions ds := by
  intro ds
  induction ds with
  | nil => intro st; simp [freeFunctions]
  | cons d ds ih =>
    intro st
    simp only [List.foldl_cons]
    rw [ih]
    cases d with
    | struct name fields => simp [onDecl, freeFunctions, isFree]
    | iface name ms =>
      simp only [onDecl, freeFunctions]
      split
      · rfl
      · simp [isFree]
    | func recv name ps body =>
      simp only [onDecl, freeFunctions]
      split <;> simp [isFree]

theorem name_cellStep (pkg n : String) (o : Option GDS) (d : GDecl) (h : o.all (·.name == n) = true) :
    (cellStep pkg n o d).all (·.name == n) = true := by
  unfold cellStep
  split
  next name fields =>
    split
    · exact beq_self_eq_true n
    · exact h
  next name ms =>
    split
    · split <;> exact beq_self_eq_true n
    · exact h
  next recv name ps body =>
    split
    · exact h
    · split
      · cases o with  -- `none`: a method standing before its type makes the cell, under its key
        | none => exact beq_self_eq_true n
        | some c => exact h
      · exact h

/-- no two reported data structures of a file have the same name: a cell keeps its key as its name (`name_cellStep`) -/
theorem go_names_once (pkg : String) (ds : List GDecl) : ((visitGo pkg ds).1.map (·.name)).Nodup := by
  refine ((List.mergeSort_perm _ _).map _).nodup_iff.mpr ?_
  rw [List.map_map]
  refine GoMap.nodup_map_entries _ GDS.name fun k c hx => ?_
  rw [get?_visit] at hx
  have inv : (ds.foldl (cellStep pkg k) none).all (·.name == k) = true :=
    List.foldlRecOn ds _ (motive := (Option.all _ · = true)) rfl fun o h d _ => name_cellStep pkg k o d h
  exact eq_of_beq (hx ▸ inv :)  -- `hx` turns `inv` into `(some c).all (·.name == k) = true`, i.e. `c.name == k`

/-- one step of the fold: right after the declaration of an interface with methods its cell carries the method set and, as
    `AddInterface` builds it, no package -/
theorem go_interface_exact (pkg : String) (st : GState) (n : String) (ms : List (String × List GGroup)) (h : ms.length ≥ 1) :
    GoMap.get? (onDecl pkg st (.iface n ms)).dsMap n = some { name := n, props := ms.map fun m => propertyOf m.1 .func } := by
  rw [get?_onDecl, cellStep, if_pos (beq_self_eq_true n), if_neg (Nat.not_lt.mpr h)]

/-- a def with its decorators and the names of the defs nested directly in it -/
structure PDef where
  name : String
  annos : List PAnno
  nested : List String

inductive PItem where
  | cls (name : String) (annos : List PAnno) (methods : List PDef)
  | fn (d : PDef)

def PDef.events (d : PDef) : List PEv :=
  [.enterFunc d.name d.annos] ++ d.nested.flatMap (fun n => [.enterFunc n [], .exitFunc]) ++ [.exitFunc]

def PItem.events : PItem → List PEv
  | .cls n a ms => [.enterClass n a] ++ ms.flatMap PDef.events ++ [.exitClass]
  | .fn d => d.events

def PDef.fns (d : PDef) : List PFn := ⟨d.name, d.annos⟩ :: d.nested.map fun n => ⟨n, []⟩

def classesOf : List PItem → List PDS
  | [] => []
  | .cls n a ms :: r => { name := n, annos := a, fns := ms.flatMap PDef.fns } :: classesOf r
  | .fn _ :: r => classesOf r

def membersOf : List PItem → List PFn
  | [] => []
  | .cls _ _ _ :: r => membersOf r
  | .fn d :: r => d.fns ++ membersOf r

def runFrom (st : PState) (evs : List PEv) : Option PState := evs.foldlM onPy st

theorem runFrom_append (st : PState) (a b : List PEv) : runFrom st (a ++ b) = (runFrom st a).bind fun s => runFrom s b := by
  simp [runFrom]

/-- the listener after events in which the classes `ds` were closed and the defs `fs` were met outside them: such a def
    belongs to the class that is open, or to the module if none is -/
def extend (st : PState) (ds : List PDS) (fs : List PFn) : PState :=
  match st.cur with
  | some c => { st with dss := st.dss ++ ds, cur := some { c with fns := c.fns ++ fs } }
  | none => { st with dss := st.dss ++ ds, members := st.members ++ fs }

theorem extend_extend (st : PState) (d1 d2 : List PDS) (f1 f2 : List PFn) :
    extend (extend st d1 f1) d2 f2 = extend st (d1 ++ d2) (f1 ++ f2) := by
  obtain ⟨_, _, _, cur, _⟩ := st
  cases cur <;> simp [extend]

theorem extend_none {st : PState} (h : st.cur = none) (ds : List PDS) (fs : List PFn) :
    extend st ds fs = { st with dss := st.dss ++ ds, members := st.members ++ fs, cur := none } := by
  rw [extend, h]

/-- in ANY state (inside a class or not, whatever is on the stack): this lets blocks compose (`append`) and nest (`cls`) -/
def Yields (evs : List PEv) (ds : List PDS) (fs : List PFn) : Prop := ∀ st, runFrom st evs = some (extend st ds fs)

namespace Yields

theorem nil : Yields [] [] [] := fun st => by
  obtain ⟨_, _, _, cur, _⟩ := st
  cases cur <;> simp only [extend, List.append_nil] <;> rfl

theorem append {a b d1 d2 f1 f2} (ha : Yields a d1 f1) (hb : Yields b d2 f2) : Yields (a ++ b) (d1 ++ d2) (f1 ++ f2) :=
  fun st => by rw [runFrom_append, ha, Option.bind_some, hb, extend_extend]

theorem enterFunc (n : String) (a : List PAnno) : Yields [.enterFunc n a] [] [⟨n, a⟩] := fun st => by
  obtain ⟨_, _, _, cur, _⟩ := st
  cases cur <;> simp only [extend, List.append_nil] <;> rfl

theorem exitFunc {evs ds fs} (h : Yields evs ds fs) : Yields (evs ++ [.exitFunc]) ds fs := fun st => by
  rw [runFrom_append, h]; rfl

theorem cls {body ds fs} (h : Yields body ds fs) (n : String) (a : List PAnno) :
    Yields ([.enterClass n a] ++ body ++ [.exitClass]) (ds ++ [⟨n, a, fs⟩]) [] := fun st => by
  rw [runFrom_append, runFrom_append,
    -- this `rfl` reads `Gen.Front.pyEnterClassPushes`
    show runFrom st [.enterClass n a] = some { st with cur := some ⟨n, a, []⟩, stack := st.cur :: st.stack } from rfl,
    Option.bind_some, h, Option.bind_some]
  obtain ⟨_, _, _, cur, _⟩ := st
  -- these `rfl`s read `Gen.Front.pyExitClassPops`
  cases cur <;> simp only [extend, ← List.append_assoc, List.append_nil] <;> rfl

end Yields

theorem nested_yield : ∀ ns : List String, Yields (ns.flatMap fun n => [.enterFunc n [], .exitFunc]) [] (ns.map fun n => ⟨n, []⟩)
  | [] => .nil
  | n :: ns => (Yields.enterFunc n []).exitFunc.append (nested_yield ns)

theorem def_yields (d : PDef) : Yields d.events [] d.fns :=
  ((Yields.enterFunc d.name d.annos).append (nested_yield d.nested)).exitFunc

theorem defs_yield : ∀ ms : List PDef, Yields (ms.flatMap PDef.events) [] (ms.flatMap PDef.fns)
  | [] => .nil
  | m :: ms => (def_yields m).append (defs_yield ms)

theorem items_yield : ∀ items : List PItem, Yields (items.flatMap PItem.events) (classesOf items) (membersOf items)
  | [] => .nil
  | .cls n a ms :: r => ((defs_yield ms).cls n a).append (items_yield r)
  | .fn d :: r => (def_yields d).append (items_yield r)

/-- from every state with no class open (the imports read before are part of it): the classes in order, each with its decorators
    and its methods (a nested def follows its parent), one member per module-level function, and no class open at the end -/
theorem py_module_exact (items : List PItem) : ∀ (st : PState), st.cur = none →
    runFrom st (items.flatMap PItem.events) =
      some { st with dss := st.dss ++ classesOf items, members := st.members ++ membersOf items, cur := none } :=
  fun st h => (items_yield items st).trans (congrArg some (extend_none h _ _))

/-- a class inside a class: the inner class is listed with its own methods, the outer one with the methods before AND after it,
    and no class is left open.  (An unguarded listener without the stack dereferences nil at the second `exitClass`.) -/
theorem py_inner_class (n m : String) (a b : List PAnno) (before inner after : List PDef) (st : PState) (h : st.cur = none) :
    runFrom st ([.enterClass n a] ++ before.flatMap PDef.events ++ [.enterClass m b] ++ inner.flatMap PDef.events ++ [.exitClass]
        ++ after.flatMap PDef.events ++ [.exitClass]) =
      some { st with dss := st.dss ++ [{ name := m, annos := b, fns := inner.flatMap PDef.fns },
                                         { name := n, annos := a, fns := before.flatMap PDef.fns ++ after.flatMap PDef.fns }],
                     cur := none } := by
  have := (((defs_yield before).append ((defs_yield inner).cls m b)).append (defs_yield after)).cls n a st
  rw [extend_none h] at this
  simpa only [List.append_assoc, List.cons_append, List.nil_append, List.append_nil] using this

/-- no proof needs the second: a class block reaches its `exitClass` with its class open -/
theorem py_nesting_facts : Gen.Front.pyEnterClassPushes = true ∧ Gen.Front.pyExitClassGuardsNil = true ∧ Gen.Front.pyExitClassPops = true ∧
    Gen.Front.pythonListenerUnreset.contains "currentDataStruct" = false := ⟨rfl, rfl, rfl, by decide +kernel⟩

/-- `import a` / `import a as c` is listed under its own name -/
theorem py_import_single (st : PState) (d a t : String) :
    onPy st (.importStmt [(d, a, t)]) = some { st with imports := st.imports ++ [{ source := d, usage := if a != "" then [a] else [] }] } := by
  simp only [onPy, List.map_nil, List.append_nil]

/-- of `import a, b` only `a` is a source: the known finding c20-py-imports (the repository's `Test_PythonImport` expects it) -/
theorem py_import_list_partial (st : PState) (d1 a1 t1 d2 a2 t2 : String) :
    (onPy st (.importStmt [(d1, a1, t1), (d2, a2, t2)])).map (fun s => (s.imports.drop st.imports.length).map (·.source)) = some [d1] := by
  simp only [onPy, Option.map_some, List.drop_left, List.map_cons, List.map_nil]

-- non-vacuity: a method above its type, grouped names, two structs
#guard (visitGo "shop" [.func "Cart" "Save" [⟨["a", "b"], .ident "int"⟩] (some [.call "fmt" "Println", .other, .defer "a" "Close"]),
                        .struct "Cart" [⟨["ID", "Name"], .ident "string"⟩, ⟨[], .star (.sel "svc" "Client")⟩], .struct "Alpha" []]).1.map
    (fun d => (d.name, d.props.map (·.name), d.fns.map fun f => (f.name, f.params.map (·.name), f.calls)))
  == [("Alpha", [], []), ("Cart", ["ID", "Name", ""], [("Save", ["a", "b"], [⟨"fmt", "Println"⟩, ⟨"a", "Close"⟩])])]

end CocaVerif.Props.C20
