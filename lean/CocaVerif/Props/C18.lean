/-
  C18 — Reference counts and evaluation statistics equal what the model contains.
  For EVERY code model.  In the concept-word clause (`concept_sum`) the splitting of method names into words is a hand-written
  model of the library strcase and of `FilterString` (`toDelimited`, `addBoundaries`, `dropWord` in Model/Stats.lean), tied to
  the code by the correspondence runs and not proved; the stop-word tables are regenerated.
-/
import CocaVerif.Proofs.Stats
import CocaVerif.Base.Oracle

namespace CocaVerif.Props.C18
open CocaVerif CocaVerif.Stats

/-- number of recorded call sites that resolve to `k` -/
def sitesOf (clzs : List DS) (k : String) : Nat := ((allCallees clzs).filter (· == k)).length

/-- the reference count of a project method equals the number of recorded call sites that resolve to
    it; methods never called — and everything that is not a project method — are absent -/
theorem count_eq_resolving_sites (clzs : List DS) (k : String) :
    GoMap.get? (buildCallMap clzs) k =
      if (declared clzs).contains k ∧ sitesOf clzs k ≠ 0 then some (sitesOf clzs k) else none := by
  unfold buildCallMap sitesOf
  rw [foldl_count, ← List.count_eq_length_filter]
  simp  -- the map starts empty: `get? [] k = none`

theorem absent_iff_zero (clzs : List DS) (k : String) (hk : (declared clzs).contains k = true) :
    GoMap.get? (buildCallMap clzs) k = none ↔ sitesOf clzs k = 0 := by
  rw [count_eq_resolving_sites]
  by_cases h : sitesOf clzs k = 0
  · rw [if_neg (fun hh => hh.2 h)]; simp [h]
  · rw [if_pos ⟨hk, h⟩]; simp [h]

def keyLe (a b : String × Nat) : Bool := strLe a.1 b.1

theorem keyLe_trans (a b c : String × Nat) : keyLe a b = true → keyLe b c = true → keyLe a c = true := by
  simp only [keyLe, strLe, decide_eq_true_eq]; exact String.le_trans
theorem keyLe_total (a b : String × Nat) : (keyLe a b || keyLe b a) = true := by
  simp only [keyLe, strLe, Bool.or_eq_true, decide_eq_true_eq]; exact String.le_total _ _

/-- the reference-count listing is in key order -/
theorem count_listing_sorted (clzs : List DS) :
    (countReport clzs).Pairwise (fun a b => a.1 ≤ b.1) :=
  pairwise_mergeSort_key (· ≤ ·) Prod.fst (fun _ _ _ => String.le_trans) String.le_total _

/-- the reference-count listing is reproducible: whatever order the Go runtime ranges over the count map in (any
    oracle σ), the sorted listing is the same list (keys are distinct, so no sort key is tied) -/
theorem count_listing_unique (clzs : List DS) (σ : List (String × Nat) → List (String × Nat)) (hσ : OracleOK σ) :
    (σ (GoMap.entries (buildCallMap clzs))).mergeSort keyLe = countReport clzs := by
  refine mergeSort_eq_of_perm keyLe keyLe_trans keyLe_total (hσ _) fun a b ha hb h1 h2 => ?_
  exact GoMap.entries_inj ha hb (String.le_antisymm (of_decide_eq_true h1) (of_decide_eq_true h2))

/-- static methods are recognised whatever the order of a method's modifiers -/
theorem isStatic_perm_invariant (f g : Fn) (h : f.modifiers.Perm g.modifiers) : isStatic f = isStatic g :=
  h.contains_eq

/-- the modifier looked for is the keyword `static` -/
theorem static_literal : Gen.Stats.staticLiteral = "static" := rfl

/-- the summary's static-method count is the number of methods carrying `static` -/
theorem static_count_exact (classNodes ids : List DS) :
    (summary classNodes ids).staticMethodCount =
      ((ids.flatMap (·.fns)).filter fun f => f.modifiers.contains "static").length := by
  rw [List.filter_flatMap, List.length_flatMap]
  rfl

/-- the summary's class count is the number of types (by definition of `summary`), its method count that of their methods -/
theorem method_class_counts_exact (classNodes ids : List DS) :
    (summary classNodes ids).classCount = ids.length ∧
    (summary classNodes ids).methodCount = (ids.flatMap (·.fns)).length :=
  ⟨rfl, List.length_flatMap.symm⟩

/-- nullable methods: each is listed once -/
theorem nullable_listed_once (ids : List DS) : (nullableNames ids).Nodup :=
  GoMap.dedup_nodup _

/-- nullable methods: a name is listed iff some method of that full name returns null or is annotated
    @Nullable / @CheckForNull -/
theorem nullable_iff (ids : List DS) (name : String) :
    name ∈ nullableNames ids ↔
      ∃ d ∈ ids, ∃ f ∈ d.fns, Fn.full d f = name ∧
        (f.isReturnNull = true ∨ ∃ a ∈ f.annos, a.name = "Nullable" ∨ a.name = "CheckForNull") := by
  unfold nullableNames
  rw [GoMap.mem_dedup]
  simp only [List.mem_flatMap, List.mem_map, List.mem_filter, isNullableFn, Bool.or_eq_true, List.any_eq_true,
    Gen.Stats.nullableAnnoCond, beq_iff_eq]
  constructor
  · rintro ⟨d, hd, f, ⟨hf, hn⟩, rfl⟩; exact ⟨d, hd, f, hf, rfl, hn⟩
  · rintro ⟨d, hd, f, hf, rfl, hn⟩; exact ⟨d, hd, f, ⟨hf, hn⟩, rfl⟩

/-- the concept report's counts sum to the number of words of the method names that are not stop words -/
theorem concept_sum (clzs : List DS) :
    ((conceptReport clzs).map (·.2)).sum = ((allWords clzs).filter fun w => !stopWords.contains w).length := by
  unfold conceptReport
  generalize allWords clzs = ws
  have hperm : (conceptReport' ws).Perm (GoMap.entries (removeStop (countWords ws))) := List.mergeSort_perm _ _
  rw [(hperm.map (·.2)).sum_nat]
  -- conservation follows from exactness: a surviving word is bound to its number of occurrences
  refine GoMap.sum_entries_of_count _ id _ fun q => ?_
  rw [removeStop, GoMap.get?_foldl_erase, countWords_get]
  cases hs : stopWords.contains q
  · rw [List.count_filter (by rw [hs]; rfl)]
    cases ws.count q <;> rfl
  · have : q ∉ ws.filter fun w => !stopWords.contains w := fun h => by
      simpa [List.contains_iff_mem.mp hs] using (List.mem_filter.mp h).2
    exact (List.count_eq_zero.mpr this).symm

-- (test) method names split into lower-cased words, digits dropped
example : isStatic { modifiers := ["static", "public"] } = true ∧ isStatic { modifiers := ["public", "static"] } = true := by decide
#guard wordsOf "parseJSONData" = ["parse", "json", "data"] ∧ wordsOf "process2Items" = ["process", "items"]

end CocaVerif.Props.C18
