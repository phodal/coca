import CocaVerif.Model.Tbs
import CocaVerif.Base.Lists

namespace CocaVerif.Tbs
open CocaVerif.Gen.Tbs

def ofType (t : String) (l : List TF) : List TF := l.filter fun f => f.type == t

@[simp] theorem ofType_nil (t : String) : ofType t [] = [] := rfl
theorem ofType_append (t : String) (a b : List TF) : ofType t (a ++ b) = ofType t a ++ ofType t b :=
  List.filter_append ..
theorem ofType_flatMap {α : Type} (t : String) (l : List α) (g : α → List TF) :
    ofType t (l.flatMap g) = l.flatMap fun x => ofType t (g x) := List.filter_flatMap

theorem ofType_printF (t file : String) (c : Call) :
    ofType t (printF file c) = if "RedundantPrintTest" = t then printF file c else [] :=
  filter_uniform_tag _ (fun _ hf => eq_of_mem_ite hf ▸ rfl) t
theorem ofType_sleepF (t file : String) (c : Call) : ofType t (sleepF file c) = if "SleepyTest" = t then sleepF file c else [] :=
  filter_uniform_tag _ (fun _ hf => eq_of_mem_ite hf ▸ rfl) t
theorem ofType_redundantF (t file : String) (m : Fn) (c : Call) :
    ofType t (redundantF file m c) = if "RedundantAssertionTest" = t then redundantF file m c else [] :=
  filter_uniform_tag _ (fun _ hf => eq_of_mem_ite hf ▸ rfl) t
theorem ofType_assertF (t file : String) (m : Fn) (b : Bool) :
    ofType t (assertF file m b) = if "UnknownTest" = t then assertF file m b else [] :=
  filter_uniform_tag _ (fun _ hf => eq_of_mem_ite hf ▸ rfl) t
theorem ofType_ignoreF (t file : String) (a : Anno) : ofType t (ignoreF file a) = if "IgnoreTest" = t then ignoreF file a else [] :=
  filter_uniform_tag _ (fun _ hf => eq_of_mem_ite hf ▸ rfl) t
theorem ofType_dupF (t file : String) (m : Fn) (cs : List Call) :
    ofType t (dupF file m cs) = if "DuplicateAssertTest" = t then dupF file m cs else [] :=
  filter_uniform_tag _ (fun _ hf => eq_of_mem_ite hf ▸ rfl) t
theorem eq_of_mem_emptyF {file : String} {m : Fn} {n : Nat} {a : Anno} {f : TF} (hf : f ∈ emptyF file m n a) :
    f = { file := file, type := "EmptyTest", line := m.pos.startLine } := by
  unfold emptyF at hf
  split at hf
  · exact eq_of_mem_ite hf
  · cases hf
theorem ofType_emptyF (t file : String) (m : Fn) (n : Nat) (a : Anno) :
    ofType t (emptyF file m n a) = if "EmptyTest" = t then emptyF file m n a else [] :=
  filter_uniform_tag _ (fun _ hf => eq_of_mem_emptyF hf ▸ rfl) t

/-- a non-creation call; the statements of Props/C11 spell it `c.fn != ""` -/
def real (c : Call) : Bool := c.fn != ""

/-- `assertF` is produced when the last call is visited: not at all for an empty list -/
theorem callLoop_eq (file : String) (m : Fn) : ∀ (cs : List Call) (has : Bool),
    callLoop file m cs has =
      (cs.flatMap fun c => if real c then printF file c ++ sleepF file c ++ redundantF file m c else []) ++
      if cs = [] then [] else assertF file m (has || cs.any fun c => real c && hasAssertion c) := by
  intro cs
  induction cs with
  | nil => intro _; rfl
  | cons c rest ih =>
    intro has
    have hr : real c = !(c.fn == "") := rfl
    rw [callLoop, ih, ih, List.flatMap_cons, List.any_cons, hr]
    -- creation call or not, last call or not: `assertF` comes out at the last call only, with the flag accumulated so far
    cases c.fn == "" <;> cases rest <;> simp [Bool.or_assoc]

theorem callLoop_file (file : String) (m : Fn) (cs : List Call) (has : Bool) : ∀ f ∈ callLoop file m cs has, f.file = file := by
  intro f hf
  rw [callLoop_eq, List.mem_append, List.mem_flatMap] at hf
  rcases hf with ⟨c, _, h⟩ | h
  · split at h
    · simp only [List.mem_append] at h
      rcases h with (h | h) | h <;> exact eq_of_mem_ite h ▸ rfl
    · cases h
  · split at h
    · cases h
    · exact eq_of_mem_ite h ▸ rfl

end CocaVerif.Tbs
