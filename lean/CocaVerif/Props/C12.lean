/-
  C12 — Extracted HTTP APIs are exactly the annotated Spring handler methods.
  A conventional controller file: any class-level annotations in any order, any @RequestMapping among them written before or
  after the controller annotation; any number of handlers, plain methods and annotated fields in any order; any parameters.
  The events are what the ANTLR walker fires for the rendered file; that correspondence (renderer → parser → events) is
  exercised on every run, not proved.
-/
import CocaVerif.Proofs.Api
import CocaVerif.Base.Fold

namespace CocaVerif.Props.C12
open CocaVerif CocaVerif.Api

def isCtrlName (n : String) : Bool := n == "RestController" || n == "Controller"

inductive PathForm where
  | marker                         -- @GetMapping
  | positional (text : String)     -- @GetMapping("/x")            (text = the literal with its quotes)
  | value (text : String)          -- @GetMapping(value = "/x")

structure Mapping where
  name : String
  form : PathForm
  methodAttr : Option String       -- method = RequestMethod.X (only meaningful for RequestMapping)

def Mapping.ev (m : Mapping) : AnnoEv :=
  match m.form, m.methodAttr with
  | .marker, none => { name := m.name, args := .none }
  | .marker, some v => { name := m.name, args := .pairs [("method", v)] }
  | .positional t, _ => { name := m.name, args := .positional t }
  | .value t, none => { name := m.name, args := .pairs [("value", t)] }
  | .value t, some v => { name := m.name, args := .pairs [("value", t), ("method", v)] }

/-- @Autowired, @Deprecated, @RequestBody, … -/
def Other (a : AnnoEv) : Prop := isMapping a.name = false ∧ isCtrlName a.name = false

-- `pannos`: after the method event the walker descends into the parameter list and fires, once more as `anno` events, the
-- parameter annotations that `EnterMethodDeclaration` has already read off the declaration (`ParamEv.annos`, as names)
inductive Member where
  | handler (pre : List AnnoEv) (m : Mapping) (post : List AnnoEv) (name : String) (params : List ParamEv) (pannos : List AnnoEv)
  | plain (annos : List AnnoEv) (name : String) (params : List ParamEv) (pannos : List AnnoEv)
  | field (annos : List AnnoEv)

def Member.ok : Member → Prop
  | .handler pre m post _ _ pa => (∀ a ∈ pre ++ post ++ pa, Other a) ∧ isMapping m.name = true
  | .plain an _ _ pa => ∀ a ∈ an ++ pa, Other a
  | .field an => ∀ a ∈ an, Other a

def Member.events : Member → List Ev
  | .handler pre m post n ps pa => (pre.map .anno) ++ [.anno m.ev] ++ (post.map .anno) ++ [.method n ps] ++ (pa.map .anno)
  | .plain an n ps pa => (an.map .anno) ++ [.method n ps] ++ (pa.map .anno)
  | .field an => an.map .anno

def Mapping.uri (base : String) (m : Mapping) : String :=
  match m.form with
  | .marker => removeQuotes base
  | .positional t => removeQuotes (base ++ t)
  | .value t => match stripEnds t with
    | some p => base ++ p
    | none => removeQuotes base

def Mapping.verb (m : Mapping) : String :=
  if m.name != "RequestMapping" then (verbOf m.name).getD ""
  else match m.form, m.methodAttr with
    | .positional _, _ => ""        -- @RequestMapping("/x") has no method attribute
    | _, some v => (verbOf v).getD ""
    | _, none => ""

def bodyType (params : List ParamEv) : String :=
  params.foldl (fun rb p => if p.annos.contains "RequestBody" then p.type else rb) ""

def expectedOf (pkg cls base : String) : Member → List RestAPI
  | .handler _ m _ n ps _ => [{ uri := m.uri base, httpMethod := m.verb, methodName := n, requestBodyClass := bodyType ps, pkg := pkg, cls := cls }]
  | _ => []

theorem others_inside (annos : List AnnoEv) (st : ASt) (h : ∀ a ∈ annos, Other a) (hc : st.hasEnterClass = true) :
    (annos.map Ev.anno).foldl step st = st := by
  rw [List.foldl_map]
  exact List.foldl_fixed fun a ha => onAnno_skip st a hc (h a ha).2 (.inr (h a ha).1)

theorem ev_name (m : Mapping) : m.ev.name = m.name := by
  unfold Mapping.ev; split <;> rfl

theorem mapping_inside (st : ASt) (m : Mapping) (hm : isMapping m.name = true)
    (hc : st.hasEnterClass = true) (hk : st.isController = true) :
    onAnno st m.ev = { st with hasEnterRest := true, current := { uri := m.uri st.baseApiUrl, httpMethod := m.verb } } := by
  -- the guards of `EnterAnnotation` pass for every mapping annotation in a controller class
  simp only [onAnno, ev_name, isMapping_not_ctrl hm, hc, hk, hm, Bool.false_eq_true, ↓reduceIte, Bool.not_true, Bool.false_and,
    Gen.Api.nonRequestMappingReturns, Bool.and_false, setVerb_eq]
  -- Twelve cases are left: @RequestMapping or not (`hr`: only then is a `method` attribute read, otherwise the name gives the
  -- verb), path form, `method` attribute.  Only the `value=` form consults `stripEnds`, hence the `try`.
  obtain ⟨name, form, attr⟩ := m
  cases hr : name == "RequestMapping" <;> cases form <;> cases attr <;>
    simp only [Mapping.ev, Mapping.uri, Mapping.verb, bne, hr, Bool.false_eq_true, ↓reduceIte, Bool.not_true, Bool.not_false,
      List.foldl_cons, List.foldl_nil, String.reduceBEq, Bool.and_true, Bool.and_false] <;>
    (try cases stripEnds _) <;> rfl

theorem member_fold (st : ASt) (mem : Member) (hok : mem.ok) (hc : st.hasEnterClass = true) (hr : st.hasEnterRest = false)
    (hb : st.requestBodyClass = "") :
    ∃ cur, mem.events.foldl step st = { st with current := cur, apis := st.apis ++
      (if st.isController then expectedOf st.curPkg st.curClz st.baseApiUrl mem else []) } := by
  cases mem with
  | field an =>
    rw [Member.events, others_inside an st hok hc]
    exact ⟨st.current, by simp only [expectedOf, ite_self, List.append_nil]⟩
  | plain an n ps pa =>
    obtain ⟨han, hpa⟩ := List.forall_mem_append.1 hok
    simp only [Member.events, List.foldl_append, List.foldl_cons, List.foldl_nil, step]
    rw [others_inside an st han hc, onMethod_idle st n ps hr, others_inside pa st hpa hc]
    exact ⟨st.current, by simp only [expectedOf, ite_self, List.append_nil]⟩
  | handler pre m post n ps pa =>
    simp only [Member.ok, List.forall_mem_append] at hok
    obtain ⟨⟨⟨hpre, hpost⟩, hpa⟩, hmap⟩ := hok
    simp only [Member.events, List.foldl_append, List.foldl_cons, List.foldl_nil, step]
    rw [others_inside pre st hpre hc]
    rcases Bool.eq_false_or_eq_true st.isController with hk | hk
    · rw [mapping_inside st m hmap hc hk, others_inside post _ hpost ?post, onMethod_pending _ n ps rfl, others_inside pa _ hpa ?pa]
      case post | pa => exact hc
      -- `onMethod` has re-set `hasEnterRest` and `requestBodyClass` to the values `st` has (`hr`, `hb`): `rfl` sees that the two
      -- records agree only once `st` is taken apart and the values are substituted
      obtain ⟨_, _, _, _, _, _, _, _, _, _⟩ := st
      subst hr hb hk
      exact ⟨_, rfl⟩
    · rw [onAnno_skip st m.ev hc (ev_name m ▸ isMapping_not_ctrl hmap) (.inl hk), others_inside post st hpost hc,
        onMethod_idle st n ps hr, others_inside pa st hpa hc]
      exact ⟨st.current, by rw [if_neg (ne_true_of_eq_false hk), List.append_nil]⟩

theorem body_fold (st : ASt) (mems : List Member) (hok : ∀ m ∈ mems, m.ok) (hc : st.hasEnterClass = true)
    (hr : st.hasEnterRest = false) (hb : st.requestBodyClass = "") :
    ∃ cur, (mems.flatMap Member.events).foldl step st = { st with current := cur, apis := st.apis ++
      (mems.flatMap fun m => if st.isController then expectedOf st.curPkg st.curClz st.baseApiUrl m else []) } := by
  induction mems generalizing st with
  | nil => exact ⟨st.current, by rw [List.flatMap_nil, List.flatMap_nil, List.append_nil]; rfl⟩
  | cons m ms ih =>
    obtain ⟨hm, hms⟩ := List.forall_mem_cons.1 hok
    obtain ⟨cur, h⟩ := member_fold st m hm hc hr hb
    -- `apis := _` is the list of `h`; it is determined when `rw [h']` below meets the state `h` produced
    obtain ⟨cur', h'⟩ := ih { st with current := cur, apis := _ } hms hc hr hb
    exact ⟨cur', by rw [List.flatMap_cons, List.foldl_append, h, h', List.flatMap_cons, List.append_assoc]⟩

/-- the base path the class-level @RequestMapping annotations leave: one that gives a path overwrites those before it -/
def baseAfter (annos : List AnnoEv) (b0 : String) : String :=
  annos.foldl (fun b a => (baseOf { baseApiUrl := b } a).baseApiUrl) b0

def hasCtrl (annos : List AnnoEv) : Bool := annos.any fun a => isCtrlName a.name

theorem class_annos (annos : List AnnoEv) (st : ASt) (h : st.hasEnterClass = false) :
    (annos.map Ev.anno).foldl step st =
      { st with isController := st.isController || hasCtrl annos, baseApiUrl := baseAfter annos st.baseApiUrl } := by
  induction annos generalizing st with
  | nil => simp only [hasCtrl, List.any_nil, Bool.or_false]; rfl
  | cons a rest ih =>
    rw [List.map_cons, List.foldl_cons, step, onAnno_outside st a h, baseOf_eq, ih _ (by split <;> exact h)]
    simp only [hasCtrl, List.any_cons, isCtrlName, baseAfter, List.foldl_cons]
    cases (a.name == "RestController" || a.name == "Controller")
    · rfl
    · simp only [↓reduceIte, Bool.true_or, Bool.or_true]

structure CFile where
  pkg : String
  imports : List String
  classAnnos : List AnnoEv
  name : String
  members : List Member

def CFile.events (f : CFile) : List Ev :=
  [.pkg f.pkg] ++ f.imports.map .imp ++ f.classAnnos.map .anno ++ [.enterClass f.name ""] ++
    f.members.flatMap Member.events ++ [.exitClass]

def CFile.expected (f : CFile) : List RestAPI :=
  if hasCtrl f.classAnnos then f.members.flatMap (expectedOf f.pkg f.name (baseAfter f.classAnnos "")) else []

theorem imports_noop (imps : List String) (st : ASt) : (imps.map Ev.imp).foldl step st = st := by
  rw [List.foldl_map]
  exact List.foldl_fixed fun _ _ => rfl

/-- The model clause of C12: from ANY listener state, the listener ends a conventional controller file with exactly one entry per
    handler - verb, base path ++ method path, request-body type, package, class, method - and with none for a class without
    controller annotation -/
theorem file_exact (f : CFile) (hok : ∀ m ∈ f.members, m.ok) (st0 : ASt) :
    ∃ st', runFile st0 f.events = .ok st' ∧ st'.apis = f.expected := by
  obtain ⟨cur, h⟩ := body_fold
    { hasEnterClass := true, isController := hasCtrl f.classAnnos, baseApiUrl := baseAfter f.classAnnos "", curPkg := f.pkg, curClz := f.name }
    f.members hok rfl rfl rfl
  refine ⟨_, runFile_eq st0 f.events, ?_⟩
  simp only [CFile.events, List.foldl_append, List.foldl_cons, List.foldl_nil, newListener_eq, imports_noop, step]
  rw [class_annos f.classAnnos _ rfl, Bool.false_or]
  -- with the record updates evaluated, the class body starts in the state `h` speaks of
  dsimp only
  rw [h]
  unfold CFile.expected
  cases hasCtrl f.classAnnos
  · exact List.flatMap_eq_nil_iff.2 fun _ _ => rfl
  · rfl

/-- the API clause of C07: a controller's entries do not depend on which other files were scanned before it -/
theorem file_independent (f : CFile) (hok : ∀ m ∈ f.members, m.ok) (st1 st2 : ASt) :
    (runFile st1 f.events).toOption.map (·.apis) = (runFile st2 f.events).toOption.map (·.apis) := by
  rw [runFile_independent st1 st2]

/-- without a class-level @RequestMapping the base path is empty: the paths of the handlers are their own -/
theorem base_absent (annos : List AnnoEv) (h : ∀ a ∈ annos, a.name ≠ "RequestMapping") : baseAfter annos "" = "" :=
  List.foldl_fixed fun a ha => by
    rw [baseOf, if_neg (by rw [beq_false_of_ne (h a ha)]; exact Bool.false_ne_true)]

-- (test) class-level mapping written BEFORE the controller annotation
def demoFile : CFile :=
  CFile.mk "p" [] [{ name := "RequestMapping", args := .positional "\"/api\"" }, { name := "RestController", args := .none }] "C"
    [.handler [] (Mapping.mk "GetMapping" (.value "\"/x\"") none) [] "h" [{ annos := ["RequestBody"], type := "Dto", name := "d" }] [],
     .plain [] "helper" [] []]
#guard (runFile {} demoFile.events).toOption.map (·.apis) =
  some [{ uri := "/api/x", httpMethod := "GET", methodName := "h", requestBodyClass := "Dto", pkg := "p", cls := "C" }]

end CocaVerif.Props.C12
