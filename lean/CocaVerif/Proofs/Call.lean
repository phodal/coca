import CocaVerif.Model.Call

namespace CocaVerif.Call

/-- `a` calls `b` in the model, after DI replacement -/
def Calls (c : Cfg) (a b : String) : Prop := ∃ ch ∈ c.mm a, b = c.di ch

/-- reflexive-transitive closure of `Calls` (head-first) -/
inductive Reach (c : Cfg) : String → String → Prop
  | refl (a : String) : Reach c a a
  | head {a b z : String} : Calls c a b → Reach c b z → Reach c a z

theorem Reach.trans {c : Cfg} {a b z : String} (h : Reach c a b) (h2 : Reach c b z) : Reach c a z := by
  induction h with
  | refl a => exact h2
  | head h1 _ ih => exact .head h1 (ih h2)

@[simp] theorem edgesOf_append (l1 l2 : List Item) : edgesOf (l1 ++ l2) = edgesOf l1 ++ edgesOf l2 := by
  induction l1 with
  | nil => rfl
  | cons x xs ih => cases x <;> simp [edgesOf, ih]

@[simp] theorem edgesOf_nil : edgesOf [] = [] := rfl
@[simp] theorem edgesOf_blank : edgesOf [Item.blank] = [] := rfl
@[simp] theorem edgesOf_edge (a b : String) : edgesOf [Item.edge a b] = [(a, b)] := rfl

/-- `BuildCallChain` as a proof rule: `P` holds of the root and passes along calls (`hP`); `R lc out` relates the counter at
    entry to a result `out` = (items, counter, truncated), and has to hold of
    * `hstop`: the result when the budget test fires or the fuel is used up;
    * `hleaf`: the result for a function without callees;
    * `hnil`: a loop over no callees (it also stands for the call on a callee without callees);
    * `hcons`: a loop over `ch :: rest`, given the call `sub` on `ch` and the loop `more` over `rest` from `sub`'s counter;
    * `henter`: a call at `lc`, given its loop, entered at `lc + 1`. -/
theorem chain_rule (c : Cfg) (P : String → Prop) (R : Nat → List Item × Nat × Bool → Prop)
    (hP : ∀ {f ch}, P f → ch ∈ c.mm f → P (c.di ch))
    (hstop : ∀ lc, R lc ([.blank], lc, true))
    (hleaf : ∀ {lc}, Gen.Call.callBudgetHit lc c.max = false → R lc ([.blank], lc + 1, false))
    (hnil : ∀ lc, R lc ([], lc, false))
    (hcons : ∀ {f ch lc sub more}, P f → ch ∈ c.mm f → R lc sub → R sub.2.1 more →
      R lc (sub.1 ++ [.edge f (c.di ch)] ++ more.1, more.2.1, sub.2.2 || more.2.2))
    (henter : ∀ {lc out}, Gen.Call.callBudgetHit lc c.max = false → R (lc + 1) out → R lc out) :
    ∀ (fuel lc : Nat) (f : String), P f → R lc (chain c fuel lc f) := by
  intro fuel
  induction fuel with
  | zero => intro lc f _; exact hstop lc
  | succ n ih =>
    intro lc f hf
    unfold chain
    split
    · exact hstop lc
    · rename_i hh
      have hh : Gen.Call.callBudgetHit lc c.max = false := by simpa using hh
      split
      · exact hleaf hh
      · refine henter hh ?_
        have loop : ∀ cs lc, (∀ ch ∈ cs, ch ∈ c.mm f) → R lc (loopWith c (chain c n) f cs lc) := by
          intro cs
          induction cs with
          | nil => intro lc _; exact hnil lc
          | cons ch rest ih2 =>
            intro lc hsub
            obtain ⟨hch, hrest⟩ := List.forall_mem_cons.mp hsub
            refine hcons hf hch ?_ (ih2 _ hrest)
            split
            · exact hnil lc
            · exact ih lc _ (hP hf hch)
        exact loop _ _ fun _ h => h

/-- every edge is a recorded call out of a method reachable from the root -/
def SoundFrom (c : Cfg) (root : String) (items : List Item) : Prop :=
  ∀ e ∈ edgesOf items, Calls c e.1 e.2 ∧ Reach c root e.1

theorem chain_sound (c : Cfg) (root : String) :
    ∀ (fuel lc : Nat) (f : String), Reach c root f → SoundFrom c root (chain c fuel lc f).1 := by
  have nil : ∀ l, edgesOf l = [] → SoundFrom c root l := fun l h e he => by rw [h] at he; cases he
  refine chain_rule c (Reach c root) (fun _ out => SoundFrom c root out.1) (hP := fun hf hch => hf.trans (.head ⟨_, hch, rfl⟩ (.refl _)))
    (hstop := fun _ => nil _ rfl) (hleaf := fun _ => nil _ rfl) (hnil := fun _ => nil _ rfl) (henter := fun _ h => h)
    (hcons := ?_)
  intro f ch _ sub more hf hch hs hm e he
  simp only [edgesOf_append, edgesOf_edge, List.mem_append, List.mem_singleton] at he
  rcases he with (he | rfl) | he
  · exact hs e he
  · exact ⟨⟨ch, hch, rfl⟩, hf⟩
  · exact hm e he

theorem chain_mono (c : Cfg) (fuel lc : Nat) (f : String) : lc ≤ (chain c fuel lc f).2.1 :=
  chain_rule c (fun _ => True) (fun lc out => lc ≤ out.2.1) (hP := fun _ _ => trivial)
    (hstop := fun _ => Nat.le_refl _) (hleaf := fun _ => Nat.le_succ _) (hnil := fun _ => Nat.le_refl _)
    (hcons := fun _ _ h1 h2 => Nat.le_trans h1 h2) (henter := fun _ h => Nat.le_of_succ_le h) fuel lc f trivial

theorem chain_bound (c : Cfg) (fuel lc : Nat) (f : String) (h : lc ≤ c.max + 1) : (chain c fuel lc f).2.1 ≤ c.max + 1 := by
  -- `callBudgetHit lc max` is `decide (lc > max)`, the comparison regenerated from the Go source: it enters here and
  -- through `decide_eq_true` in `chain_fuel_irrelevant`
  have hit : ∀ {lc}, Gen.Call.callBudgetHit lc c.max = false → lc + 1 ≤ c.max + 1 := fun h =>
    Nat.succ_le_succ (Nat.le_of_not_lt (of_decide_eq_false h))
  exact chain_rule c (fun _ => True) (fun lc out => lc ≤ c.max + 1 → out.2.1 ≤ c.max + 1) (hP := fun _ _ => trivial)
    (hstop := fun _ h => h) (hleaf := fun hh _ => hit hh) (hnil := fun _ h => h)
    (hcons := fun _ _ h1 h2 h => h2 (h1 h)) (henter := fun hh h _ => h (hit hh)) fuel lc f trivial h

/-- Recursors that agree from counter `lc0` upward give the same loop from there; `hmono` keeps every later call of the loop there. -/
theorem loopWith_congr (c : Cfg) (f : String) (r1 r2 : Nat → String → List Item × Nat × Bool) (lc0 : Nat)
    (hmono : ∀ lc g, lc ≤ (r1 lc g).2.1)
    (heq : ∀ lc g, lc0 ≤ lc → r1 lc g = r2 lc g) (cs : List String) (lc : Nat) :
    lc0 ≤ lc → loopWith c r1 f cs lc = loopWith c r2 f cs lc := by
  fun_induction loopWith c r1 f cs lc with
  | case1 => intro _; rfl
  | case2 x rest lc ch' sub more ih =>
    intro h
    have hle : lc0 ≤ sub.2.1 := by
      simp only [sub]; split
      · exact h
      · exact Nat.le_trans h (hmono lc ch')
    simp only [loopWith, more, ih hle, sub, ch', heq lc _ h]

theorem chain_of_hit (c : Cfg) (fuel lc : Nat) (f : String) (h : Gen.Call.callBudgetHit lc c.max = true) :
    chain c fuel lc f = ([.blank], lc, true) := by
  cases fuel with
  | zero => rfl
  | succ n => rw [chain, if_pos h]

theorem chain_enter (c : Cfg) (n lc : Nat) (f : String) (hb : Gen.Call.callBudgetHit lc c.max = false)
    (hne : (c.mm f).isEmpty = false) : chain c (n + 1) lc f = loopWith c (chain c n) f (c.mm f) (lc + 1) := by
  rw [chain, hb, hne]
  rfl

theorem chain_fuel_irrelevant (c : Cfg) :
    ∀ (n m lc : Nat) (f : String), c.max + 2 ≤ n + lc → c.max + 2 ≤ m + lc → chain c n lc f = chain c m lc f := by
  -- where the fuel is used up the counter is past the budget, and there any fuel stops
  have stop : ∀ m lc f, c.max + 2 ≤ 0 + lc → chain c 0 lc f = chain c m lc f := fun m lc f h =>
    (chain_of_hit c m lc f (decide_eq_true (Nat.lt_of_succ_lt (Nat.zero_add lc ▸ h)))).symm
  intro n
  induction n with
  | zero => intro m lc f h _; exact stop m lc f h
  | succ n ih =>
    intro m lc f h1 h2
    cases m with
    | zero => exact (stop _ lc f h2).symm
    | succ m =>
      have le : ∀ k, c.max + 2 ≤ k + 1 + lc → ∀ lc', lc + 1 ≤ lc' → c.max + 2 ≤ k + lc' := by omega
      cases hb : Gen.Call.callBudgetHit lc c.max
      · cases hne : (c.mm f).isEmpty
        · rw [chain_enter c n lc f hb hne, chain_enter c m lc f hb hne]
          exact loopWith_congr c f (chain c n) (chain c m) (lc + 1) (fun lc g => chain_mono c n lc g)
            (fun lc' g hl => ih m lc' g (le n h1 lc' hl) (le m h2 lc' hl)) _ _ (Nat.le_refl _)
        · rw [chain, chain, hb, hne]
          rfl
      · rw [chain_of_hit c _ lc f hb, chain_of_hit c _ lc f hb]

theorem loopWith_all_edges (c : Cfg) (f : String) (rec : Nat → String → List Item × Nat × Bool)
    (cs : List String) (lc : Nat) : ∀ ch ∈ cs, (f, c.di ch) ∈ edgesOf (loopWith c rec f cs lc).1 := by
  fun_induction loopWith c rec f cs lc with
  | case1 => intro ch h; cases h
  | case2 x rest lc _ _ _ ih =>
    intro ch hch
    simp only [edgesOf_append, edgesOf_edge, List.mem_append, List.mem_singleton]
    rcases List.mem_cons.mp hch with rfl | h
    · exact Or.inl (Or.inr rfl)
    · exact Or.inr (ih ch h)

/-- `lc'`: the call on `ch` is made at whatever counter the callees before it returned. -/
theorem loopWith_sub_edges (c : Cfg) (f : String) (rec : Nat → String → List Item × Nat × Bool)
    (cs : List String) (lc : Nat) : (loopWith c rec f cs lc).2.2 = false →
      ∀ ch ∈ cs, (c.mm (c.di ch)).isEmpty = false →
        ∃ lc', (rec lc' (c.di ch)).2.2 = false ∧ ∀ e ∈ edgesOf (rec lc' (c.di ch)).1, e ∈ edgesOf (loopWith c rec f cs lc).1 := by
  fun_induction loopWith c rec f cs lc with
  | case1 => intro _ ch h; cases h
  | case2 x rest lc ch' sub more ih =>
    intro ht ch hch hne
    simp only [Bool.or_eq_false_iff] at ht
    simp only [edgesOf_append, List.mem_append]
    rcases List.mem_cons.mp hch with rfl | h
    · have hs : sub = rec lc (c.di ch) := by simp only [sub, ch', hne]; rfl
      exact ⟨lc, hs ▸ ht.1, fun e he => Or.inl (Or.inl (hs ▸ he))⟩
    · obtain ⟨lc', h1, h2⟩ := ih ht.2 ch h hne
      exact ⟨lc', h1, fun e he => Or.inr (h2 e he)⟩

theorem mm_ne_of_path {c : Cfg} {f a b : String} (hr : Reach c f a) (hc : Calls c a b) : (c.mm f).isEmpty = false := by
  have : ∀ {x y}, Calls c x y → (c.mm x).isEmpty = false := fun ⟨ch, hch, _⟩ =>
    List.isEmpty_eq_false_iff_exists_mem.mpr ⟨ch, hch⟩
  cases hr with
  | refl => exact this hc
  | head h1 _ => exact this h1

theorem chain_complete (c : Cfg) :
    ∀ (fuel lc : Nat) (f : String), (chain c fuel lc f).2.2 = false →
      ∀ a b, Reach c f a → Calls c a b → (a, b) ∈ edgesOf (chain c fuel lc f).1 := by
  intro fuel
  induction fuel with
  | zero => intro lc f h; cases h
  | succ n ih =>
    intro lc f ht a b hr hc
    cases hb : Gen.Call.callBudgetHit lc c.max
    · rw [chain_enter c n lc f hb (mm_ne_of_path hr hc)] at ht ⊢
      cases hr with
      | refl =>
        obtain ⟨ch, hch, rfl⟩ := hc
        exact loopWith_all_edges c f (chain c n) _ _ ch hch
      | head h1 h2 =>
        obtain ⟨ch, hch, rfl⟩ := h1
        obtain ⟨lc', h1', h2'⟩ := loopWith_sub_edges c f (chain c n) _ _ ht ch hch (mm_ne_of_path h2 hc)
        exact h2' _ (ih lc' (c.di ch) h1' a b h2 hc)
    · rw [chain_of_hit c _ lc f hb] at ht
      cases ht

end CocaVerif.Call
