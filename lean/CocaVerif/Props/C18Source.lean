/-
  C18, "equal the values derivable from the source": the identifier pass (Props/C01Ident) composed with the evaluation (Props/C18,
  Model/Stats), for every conventional unit and from any listener state.
-/
import CocaVerif.Props.C18
import CocaVerif.Props.C01Ident
import CocaVerif.Base.Lists

namespace CocaVerif.Props.C18Source
open CocaVerif CocaVerif.Stats CocaVerif.JavaIdent CocaVerif.Props.C01Ident

/-- what the source says of the members that declare a function -/
def declared : List IMember → List (String × List Anno × List String × Bool)
  | [] => []
  | .method _ name _ annos mods _ body :: r => (name, annos, mods, returnsNull body) :: declared r
  | .ctor _ name _ body :: r => (name, [], [], returnsNull body) :: declared r
  | .field _ :: r => declared r

def got (f : Fn) : String × List Anno × List String × Bool := (f.name, f.annos, f.modifiers, f.isReturnNull)

/-- zips a `sig` tuple with a `facts` tuple into `declared`'s tuple -/
def mix (s : String × String × Bool × Pos) (x : List Anno × List String × Bool) : String × List Anno × List String × Bool :=
  (s.1, x.1, x.2.1, x.2.2)

theorem map_got (fns : List Fn) : fns.map got = List.zipWith mix (fns.map sig) (fns.map facts) := by
  rw [List.zipWith_map, List.zipWith_self]; rfl

theorem declared_eq (ms : List IMember) : List.zipWith mix (expected ms) (expectedFacts ms) = declared ms := by
  induction ms with
  | nil => rfl
  | cons m ms ih => cases m <;> simp only [expected, expectedFacts, declared, List.zipWith_cons_cons, ih, mix]

theorem nullable_single (d : DS) (name : String) :
    name ∈ nullableNames [d] ↔ ∃ x ∈ d.fns.map got, d.pkg ++ "." ++ d.node ++ "." ++ x.1 = name ∧
      (x.2.2.2 = true ∨ ∃ a ∈ x.2.1, a.name = "Nullable" ∨ a.name = "CheckForNull") := by
  rw [C18.nullable_iff, exists_mem_map]
  simp only [List.mem_singleton, exists_eq_left, got, Fn.full]

theorem static_single (clzs : List DS) (d : DS) :
    (summary clzs [d]).staticMethodCount = ((d.fns.map got).filter fun x => x.2.2.1.contains Gen.Stats.staticLiteral).length := by
  rw [List.filter_map, List.length_map, summary, List.map_singleton]; rfl

/-- The nullable-methods clause of C18, from the source: a name is in the evaluation's nullable list for the file iff the unit
    declares a method or constructor of that name that mentions the null literal in a `return` statement - whichever of its
    returns it is - or, for a method, is annotated @Nullable / @CheckForNull - wherever among its modifiers; annotations of the
    members before it do not count, and a constructor's entry carries no annotations (`EnterConstructorDeclaration` reads none) -/
theorem nullable_from_source (u : IUnit) (hname : u.name ≠ "") (hok : ∀ m ∈ u.members, m.ok) (st0 : ISt) (name : String) :
    name ∈ nullableNames (runFile st0 u.events).nodes ↔
      ∃ x ∈ declared u.members, u.pkg ++ "." ++ u.name ++ "." ++ x.1 = name ∧
        (x.2.2.2 = true ∨ ∃ a ∈ x.2.1, a.name = "Nullable" ∨ a.name = "CheckForNull") := by
  obtain ⟨d, hn, hp, hnm, _, _, _, hs, hf⟩ := ident_class_exact u hname hok st0
  rw [hn, nullable_single, map_got, hs, hf, declared_eq, hp, hnm]

/-- The static-methods clause of C18, from the source: the evaluation's static-method count for the file is the number of
    declared methods whose modifier list contains `static` (position irrelevant: `isStatic_perm_invariant`) -/
theorem static_count_from_source (u : IUnit) (hname : u.name ≠ "") (hok : ∀ m ∈ u.members, m.ok) (st0 : ISt) (clzs : List DS) :
    (summary clzs (runFile st0 u.events).nodes).staticMethodCount =
      ((declared u.members).filter fun x => x.2.2.1.contains Gen.Stats.staticLiteral).length := by
  obtain ⟨d, hn, _, _, _, _, _, hs, hf⟩ := ident_class_exact u hname hok st0
  rw [hn, static_single, map_got, hs, hf, declared_eq]

-- (tests) on the demonstration units of Props/C01Ident
#guard (nullableNames (runFile {} demoNullable.events).nodes) == ["p.Repo.find", "p.Repo.load"]
#guard (declared demoNullable.members).map (·.1) == ["find", "load", "Repo", "name"]
#guard (summary [] (runFile {} demoNullable.events).nodes).staticMethodCount == 2

/-- The nullable-methods clause of C18 for interface units, from the source: an abstract method annotated @Nullable /
    @CheckForNull - before or behind its other modifiers -, a default or static method with a null-mentioning `return` -/
theorem nullable_from_source_iface (u : IfUnit) (hname : u.name ≠ "") (hok : ∀ m ∈ u.methods, m.ok) (st0 : ISt) (name : String) :
    name ∈ nullableNames (runFile st0 u.events).nodes ↔
      ∃ m ∈ u.methods, u.pkg ++ "." ++ u.name ++ "." ++ m.name = name ∧
        (returnsNull m.body = true ∨ ∃ a ∈ m.annos, a.name = "Nullable" ∨ a.name = "CheckForNull") := by
  obtain ⟨d, hn, hp, hnm, _, _, hs, hf⟩ := ident_iface_exact u hname hok st0
  rw [hn, nullable_single, map_got, hs, hf, List.zipWith_map, List.zipWith_self, hp, hnm, exists_mem_map]
  rfl

#guard (nullableNames (runFile {} demoIface.events).nodes) == ["p.Finder.find", "p.Finder.first"]

end CocaVerif.Props.C18Source
