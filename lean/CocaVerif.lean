import CocaVerif.Base.J
import CocaVerif.Base.CodeModel
import CocaVerif.Base.Lists
import CocaVerif.Base.GoMap
import CocaVerif.Base.Fold
import CocaVerif.Proofs.Api
import CocaVerif.Model.Call
import CocaVerif.Proofs.Call
import CocaVerif.Proofs.RCall
import CocaVerif.Props.C03
import CocaVerif.Props.C04
import CocaVerif.Proofs.Bs
import CocaVerif.Props.C10
import CocaVerif.Props.C10Shape
import CocaVerif.Base.Oracle
import CocaVerif.Proofs.Stats
import CocaVerif.Props.C18
import CocaVerif.Props.C18Source
import CocaVerif.Proofs.Tbs
import CocaVerif.Props.C11
import CocaVerif.Proofs.Git
import CocaVerif.Proofs.GitAuthors
import CocaVerif.Proofs.GitChangelog
import CocaVerif.Props.C14
import CocaVerif.Props.C15
import CocaVerif.Proofs.Todo
import CocaVerif.Props.C17
import CocaVerif.Props.C13
import CocaVerif.Props.C19
import CocaVerif.Props.C16
import CocaVerif.Props.C12
import CocaVerif.Proofs.JavaFull
import CocaVerif.Props.C01
import CocaVerif.Props.C02
import CocaVerif.Props.C07
import CocaVerif.Props.C05
import CocaVerif.Props.C06
import CocaVerif.Props.C08
import CocaVerif.Props.C20
import CocaVerif.Props.C09
import CocaVerif.Props.C01Ident
import CocaVerif.Props.C01Iface
