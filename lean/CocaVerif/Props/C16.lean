/-
  C16 — Per-directory line counts add up and agree with the whole-tree count.
  "Agree with the whole tree": the header, and so the cells of every row, are the languages of the whole tree; the property
  asks for no total over the rows, and none is proved.
  scc (the external line counter) is a parameter: the theorems are about the glue, for EVERY list of
  counted files and EVERY list of immediate subdirectories; that scc delivers the assumed figures —
  also across the repeated runs inside one process — is exercised by the end-to-end correspondence
  (real CLI in a fresh process on trees with ground truth), not proved.
-/
import CocaVerif.Model.Cloc
import CocaVerif.Base.Oracle

namespace CocaVerif.Props.C16
open CocaVerif CocaVerif.Cloc

/-- the header names exactly the languages found in the whole tree, each once -/
theorem header_is_base_languages (files : List FileStat) :
    (languages files).Nodup ∧ ∀ k, k ∈ languages files ↔ ∃ f ∈ files, f.lang = k :=
  ⟨GoMap.dedup_nodup _, fun k => (GoMap.mem_dedup _ k).trans List.mem_map⟩

/-- exactly one row per immediate subdirectory that is not a VCS / IDE / report directory, in order -/
theorem one_row_per_nonignored_subdir (files : List FileStat) (subdirs : List String) :
    (rows files subdirs).map (·.dir) =
      subdirs.filter fun d => !([".git", ".svn", ".hg", ".idea", "coca_reporter"].contains d) :=
  -- `rows` filters by `isIgnoreDir`, membership in the regenerated `Gen.Cloc.ignoredDirs`: that has to be this list literally
  map_map_cancel (fun _ => rfl) _

/-- every row has one figure per header language -/
theorem row_cells_per_language (files : List FileStat) (subdirs : List String) :
    ∀ r ∈ rows files subdirs, r.cells.map (·.1) = languages files := by
  intro r hr
  obtain ⟨d, _, rfl⟩ := List.mem_map.mp hr
  exact map_map_cancel (fun _ => rfl) _

/-- a row's figure for a language is the number of code lines of that language inside the row's subdirectory -/
theorem cell_eq_count (files : List FileStat) (subdirs : List String) :
    ∀ r ∈ rows files subdirs, ∀ c ∈ r.cells,
      c.2 = ((files.filter fun f => topDir f.path == some r.dir && f.lang == c.1).map (·.code)).sum := by
  intro r hr c hc
  obtain ⟨d, _, rfl⟩ := List.mem_map.mp hr
  obtain ⟨k, _, rfl⟩ := List.mem_map.mp hc
  rfl

theorem cell_zero_of_none (files : List FileStat) (d k : String)
    (h : ∀ f ∈ files, ¬ (topDir f.path = some d ∧ f.lang = k)) : cell files d k = 0 := by
  rw [cell, List.filter_eq_nil_iff.mpr fun f hf => by simp only [Bool.and_eq_true, beq_iff_eq]; exact h f hf]
  rfl

/-- the summary column is the sum of the row's per-language figures -/
theorem summary_eq_row_sum (files : List FileStat) (subdirs : List String) :
    ∀ r ∈ rows files subdirs, r.summary = (r.cells.map (·.2)).sum := by
  intro r hr
  obtain ⟨d, _, rfl⟩ := List.mem_map.mp hr
  rfl

/-- top files: per language a permutation of that language's files, in non-increasing order of code lines -/
theorem topfile_sorted (files : List FileStat) : ∀ g ∈ topFiles files,
    g.2.Perm (files.filter (·.lang == g.1)) ∧ g.2.Pairwise (fun a b => a.code ≥ b.code) := by
  intro g hg
  obtain ⟨k, _, rfl⟩ := List.mem_map.mp hg
  exact ⟨List.mergeSort_perm _ _,
    pairwise_mergeSort_key (· ≥ ·) FileStat.code (fun _ _ _ h1 h2 => Nat.le_trans h2 h1) (fun a b => Nat.le_total b a) _⟩

/-- the printed top-file table: each language's list cut at the requested size; this is how `topTable` is defined -/
theorem toptable_truncated (files : List FileStat) (size : Nat) :
    topTable files size = (topFiles files).map fun g => (g.1, g.2.take size) := rfl

theorem ignored_dirs_pinned : Gen.Cloc.ignoredDirs = [".git", ".svn", ".hg", ".idea", "coca_reporter"] := rfl

-- (test) two languages in two subdirectories, one ignored
#guard (rows [{ path := "a/x.go", lang := "Go", code := 3 }, { path := "a/s/y.py", lang := "Python", code := 2 },
              { path := ".git/z.py", lang := "Python", code := 9 }, { path := "r.py", lang := "Python", code := 1 }] ["a", ".git", "e"]).map
        (fun r => (r.dir, r.summary, r.cells)) = [("a", 5, [("Go", 3), ("Python", 2)]), ("e", 0, [("Go", 0), ("Python", 0)])]

end CocaVerif.Props.C16
