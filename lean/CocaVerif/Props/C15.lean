/-
  C15 — Git summaries are consistent with the parsed history.
  The Go code keeps per-file records in a Go map; read as a function `path ↦ record` (`abs`), its
  state after any history is that of the abstract file-identity semantics `specRun`
  (`buildInfos_refines`), and the file-identity clauses of the statement are facts about one step
  (`specApply`) of that semantics.  Rename notations are recognised by two regular expressions
  (`fileOp`), whose agreement with Go's `regexp` is established by the correspondence check, not proved.
  The top-author list and the changelog summary are characterised exactly; the team summary and code
  age are the records of the map, sorted.  What ranges over a Go map is stated for every iteration
  order `σ` that only permutes (`OracleOK σ`).
-/
import CocaVerif.Proofs.Git
import CocaVerif.Proofs.GitAuthors
import CocaVerif.Proofs.GitChangelog

namespace CocaVerif.Props.C15
open CocaVerif CocaVerif.Git

theorem buildInfos_refines (commits : List Commit) : abs (buildInfos commits) = specRun commits := by
  refine (List.foldl_hom abs fun m c => ?_).symm
  exact List.foldl_hom abs fun m ch => (abs_applyChange m c ch).symm

/-- a rename carries the history of the old name over to the new name, and the old name disappears.
    `hnew`: `touch` takes a record with an empty name for no record (Go: `EntityName == ""`) and would start afresh -/
theorem rename_carries_history (F : FSpec) (c : Commit) (ch : Change) (old new : String) (i : Info)
    (hop : fileOp ch.file = .move old new) (hold : F old = some i) (hne : old ≠ new)
    (hnew : new ≠ "") (hmode : (ch.mode == "delete") = false) :
    specApply F c ch new = some { name := new, authors := addUnique i.authors c.author,
                                  revs := addUnique i.revs c.rev, date := i.date } ∧
    specApply F c ch old = none := by
  simp [specApply, hop, hmode, specSwitch, hold, upd, touch, hnew, hne.symm]

theorem delete_drops (F : FSpec) (c : Commit) (ch : Change) (f : String)
    (hop : fileOp ch.file = .plain f) (hmode : (ch.mode == "delete") = true) :
    specApply F c ch f = none := by
  unfold specApply
  simp [hop, hmode, upd]

/-- a plain change touches its file: first touch creates the record with this commit's date,
    author and revision; a later touch adds author and revision to the sets and keeps the date -/
theorem touch_creates_or_extends (F : FSpec) (c : Commit) (ch : Change) (f : String)
    (hop : fileOp ch.file = .plain f) (hmode : (ch.mode == "delete") = false) :
    specApply F c ch f = some (touch c f (F f)) := by
  unfold specApply
  simp [hop, hmode, upd]

/-- a change whose path is plain leaves the record of every other path as it was; nothing of the kind is stated for a rename -/
theorem frame (F : FSpec) (c : Commit) (ch : Change) (f q : String)
    (hop : fileOp ch.file = .plain f) (hq : f ≠ q) : specApply F c ch q = F q := by
  unfold specApply
  simp only [hop]
  split <;> simp [upd, hq]

theorem addUnique_nodup (l : List String) (x : String) (h : l.Nodup) : (addUnique l x).Nodup := by
  unfold addUnique
  split
  · exact h
  · rename_i hc
    refine List.nodup_append.mpr ⟨h, by simp, fun a ha b hb e => hc ?_⟩
    rwa [List.contains_iff_mem, ← List.mem_singleton.mp hb, ← e]

/-- one touch keeps a record's author and revision lists free of duplicates; the single step only: nothing is
    stated about the records after a whole history -/
theorem touch_nodup (c : Commit) (name : String) (o : Option Info)
    (h : ∀ i, o = some i → i.authors.Nodup ∧ i.revs.Nodup) :
    (touch c name o).authors.Nodup ∧ (touch c name o).revs.Nodup := by
  unfold touch
  split
  · split
    · simp [fresh]
    · exact ⟨addUnique_nodup _ _ (h _ rfl).1, addUnique_nodup _ _ (h _ rfl).2⟩
  · simp [fresh]

theorem team_sorted (σ : List (String × Info) → List (String × Info)) (commits : List Commit) :
    (teamSummary σ commits).Pairwise (fun a b => a.revsCount ≥ b.revsCount) :=
  pairwise_mergeSort_key (· ≥ ·) TeamRow.revsCount (fun _ _ _ h1 h2 => Nat.le_trans h2 h1) (fun a b => Nat.le_total b a) _

/-- the team summary has one row per file that still exists, with the sizes of its author and revision sets -/
theorem team_rows (σ : List (String × Info) → List (String × Info)) (hσ : OracleOK σ) (commits : List Commit) :
    (teamSummary σ commits).Perm ((GoMap.entries (buildInfos commits)).map fun (_, i) =>
      { name := i.name, authorCount := i.authors.length, revsCount := i.revs.length : TeamRow }) :=
  hσ.sorted_rows _ _ _

theorem topAuthors_perm (σ : List (String × TopAuthor) → List (String × TopAuthor)) (hσ : OracleOK σ) (commits : List Commit) :
    (topAuthors σ commits).Perm ((GoMap.entries (authorMap commits)).map (·.2)) :=
  hσ.sorted_rows _ _ _

theorem mem_authorMap (commits : List Commit) (k : String) (t : TopAuthor) :
    (k, t) ∈ GoMap.entries (authorMap commits) ↔ commitsBy k commits ≠ [] ∧
      t = { name := k, commitCount := (commitsBy k commits).length, lineCount := netFrom 0 (commitsBy k commits) } := by
  rw [GoMap.mem_entries, authorMap_exact]
  split
  · rename_i h; simp [h]
  · rename_i h; simp only [Option.some.injEq, ne_eq, h, not_false_eq_true, true_and]; exact eq_comm

theorem top_authors_conservation (σ : List (String × TopAuthor) → List (String × TopAuthor)) (hσ : OracleOK σ)
    (commits : List Commit) : ((topAuthors σ commits).map (·.commitCount)).sum = commits.length := by
  rw [((topAuthors_perm σ hσ commits).map (·.commitCount)).sum_nat, List.map_map]
  -- conservation follows from exactness: every author's record counts his commits
  refine (GoMap.sum_entries_of_count _ TopAuthor.commitCount (commits.map (·.author)) fun a => ?_).trans (List.length_map _)
  rw [authorMap_exact, List.count_eq_length_filter, List.filter_map, List.length_map]
  split
  · rename_i h; exact (congrArg List.length h).symm
  · rfl

/-- the top-author list, exactly: a row is listed iff its author has a commit, and it carries the number of
    his commits and his net added-minus-deleted lines -/
theorem top_authors_exact (σ : List (String × TopAuthor) → List (String × TopAuthor)) (hσ : OracleOK σ)
    (commits : List Commit) (t : TopAuthor) :
    t ∈ topAuthors σ commits ↔
      commitsBy t.name commits ≠ [] ∧ t.commitCount = (commitsBy t.name commits).length ∧
        t.lineCount = netFrom 0 (commitsBy t.name commits) := by
  rw [(topAuthors_perm σ hσ commits).mem_iff, List.mem_map]
  constructor
  · rintro ⟨⟨k, v⟩, hmem, rfl⟩
    obtain ⟨hne, rfl⟩ := (mem_authorMap commits k v).mp hmem
    exact ⟨hne, rfl, rfl⟩
  · rintro ⟨hne, hc, hl⟩
    exact ⟨(t.name, t), (mem_authorMap commits _ t).mpr ⟨hne, by rw [← hc, ← hl]⟩, rfl⟩

theorem top_authors_once (σ : List (String × TopAuthor) → List (String × TopAuthor)) (hσ : OracleOK σ)
    (commits : List Commit) : ((topAuthors σ commits).map (·.name)).Nodup := by
  refine ((topAuthors_perm σ hσ commits).map (·.name)).nodup_iff.mpr ?_
  rw [List.map_map]
  refine GoMap.nodup_map_entries _ TopAuthor.name fun k v h => ?_
  rw [((mem_authorMap commits k v).mp ((GoMap.mem_entries _ k v).mpr h)).2]

theorem top_authors_sorted (σ : List (String × TopAuthor) → List (String × TopAuthor)) (commits : List Commit) :
    (topAuthors σ commits).Pairwise (fun a b => a.commitCount ≥ b.commitCount) :=
  pairwise_mergeSort_key (· ≥ ·) TopAuthor.commitCount (fun _ _ _ h1 h2 => Nat.le_trans h2 h1) (fun a b => Nat.le_total b a) _

-- non-vacuity
#guard topAuthors id [{ author := "ann", changes := [⟨5, 0, "a", ""⟩] }, { author := "bob", changes := [⟨1, 0, "b", ""⟩] },
                      { author := "ann", changes := [⟨0, 2, "a", ""⟩] }] ==
    [{ name := "ann", commitCount := 2, lineCount := 3 }, { name := "bob", commitCount := 1, lineCount := 1 }]
example : commitsBy "ann" [{ author := "ann" }, { author := "bob" }, { author := "ann" }] = [{ author := "ann" }, { author := "ann" }] := by decide +kernel

/-- basic summary: numbers of commits, distinct authors and distinct paths -/
theorem basic_summary_counts (commits : List Commit) :
    (basicSummary commits).commits = commits.length ∧
    (basicSummary commits).authors = (GoMap.dedup (commits.map (·.author))).length ∧
    (GoMap.dedup (commits.map (·.author))).Nodup ∧
    (∀ a, a ∈ GoMap.dedup (commits.map (·.author)) ↔ a ∈ commits.map (·.author)) ∧
    (basicSummary commits).entities = (GoMap.dedup (commits.flatMap fun c => c.changes.map (·.file))).length ∧
    (GoMap.dedup (commits.flatMap fun c => c.changes.map (·.file))).Nodup :=
  ⟨rfl, rfl, GoMap.dedup_nodup _, fun a => GoMap.mem_dedup _ a, rfl, GoMap.dedup_nodup _⟩

/-- code age is listed oldest first (`.2` is the date of the file's first commit) -/
theorem code_age_sorted (σ : List (String × Info) → List (String × Info)) (commits : List Commit) :
    (codeAge σ commits).Pairwise (fun a b => a.2 ≤ b.2) :=
  pairwise_mergeSort_key (· ≤ ·) Prod.snd (fun _ _ _ => String.le_trans) String.le_total _

theorem code_age_rows (σ : List (String × Info) → List (String × Info)) (hσ : OracleOK σ) (commits : List Commit) :
    (codeAge σ commits).Perm ((GoMap.entries (buildInfos commits)).map fun (_, i) => (i.name, i.date)) :=
  hσ.sorted_rows _ _ _

/-- the changelog summary, exactly: the number shown for a conventional-commit type and a file (absent = 0) is
    the number of changes to that file by commits whose subject has that type -/
theorem changelog_exact (commits : List Commit) (kw f : String) :
    cntK (changeMap commits) kw f = (countedOf kw commits).count f := by
  rw [changeMap_eq_fold, List.foldl_observe (cntK · kw f) (hit := fun c => typeOf c == some kw)
    (g := fun n c => n + (c.changes.map countedFile).count f) (cntK_outerStep kw f), List.foldl_add_map, countedOf,
    List.count_flatMap]
  exact Nat.zero_add _  -- the map starts empty: `cntK [] kw f` is 0 by evaluation

theorem changelog_untyped_ignored (commits : List Commit) (c : Commit) (h : typeOf c = none) (kw f : String) :
    cntK (changeMap (commits ++ [c])) kw f = cntK (changeMap commits) kw f := by
  rw [changelog_exact, changelog_exact]
  simp [countedOf, h]

-- non-vacuity
#guard cntK (changeMap [{ message := "feat: x", changes := [⟨1, 0, "a.go", ""⟩, ⟨1, 0, "b.go", ""⟩] }, { message := "fix(core): y", changes := [⟨1, 0, "a.go", ""⟩] },
                        { message := "feat(ui): z", changes := [⟨0, 1, "a.go", ""⟩] }, { message := "wip", changes := [⟨1, 0, "a.go", ""⟩] }]) "feat" "a.go" == 2

/-- the regular expressions the rename notations and the commit subjects are read with are the ones in the Go source -/
theorem move_regex_sources_pinned :
    Gen.Git.complexMoveSrc = "(.*)\\{(.*)\\s=>\\s(.*)\\}(.*)" ∧ Gen.Git.basicMoveSrc = "(.*)\\s=>\\s(.*)" ∧
    Gen.Git.changeLogSrc = "^(\\w*)(?:\\((.*)\\))?: (.*)$" := ⟨rfl, rfl, rfl⟩

-- non-vacuity: the in-directory and the full-path notation
example : fileOp "src/{a.txt => b.txt}" = .move "src/a.txt" "src/b.txt" ∧ fileOp "a.txt => d/b.txt" = .move "a.txt" "d/b.txt" ∧
    fileOp "d/{ => sub}/f.go" = .move "d/f.go" "d/sub/f.go" ∧ fileOp "plain.txt" = .plain "plain.txt" := by
  show fileOp (String.ofList _) = _ ∧ fileOp (String.ofList _) = _ ∧ fileOp (String.ofList _) = _ ∧ fileOp (String.ofList _) = _
  repeat rw [fileOp, updateMessageForChange, String.toList_ofList]  -- (see Props/C14.lean: reading the characters off the literal)
  decide +kernel

end CocaVerif.Props.C15
